/- the interpreter one action at a time: `exec` is the iteration of `step`; a step either
   journals the whole frame of its action, acknowledged, and goes on, or journals a frame cut
   by a failure (`Cut`) and stops (`step_eq`, `exec_ind`).  Then what holds of every run: a
   fault-free one returns Ok (`exec_clean`), one that returns Ok has recorded every write
   (`exec_ok_shadow`), and the journal decodes to the accesses of the actions before the first
   failure, then what the cut frame shows (`decode_exec`).  `runOp_cases` / `runCtor_cases`
   eliminate an API call: a refused guard with no bus traffic, or the run of its plan. -/
import Bma400.Lemmas.Exec
namespace Bma400
namespace Thm
open P

/-- one action through the transport: journal segment, state, error or the bytes read -/
def step (t : Transport) (fails : Nat → Bool) (w : World) : Act → List JEntry × World × Except Err (List (List Byte))
  | .wr a v e =>
    match writeRegister t fails w a v with
    | (j, w', some err) => (j, w', .error err)
    | (j, w', none) => (j, { w' with shadow := applyEff w'.shadow a v e }, .ok [])
  | .rd a n =>
    match readRegister t fails w a n with
    | (j, w', .error err) => (j, w', .error err)
    | (j, w', .ok d) => (j, w', .ok [d])
  | .delay ms => ([⟨.delay ms, true⟩], w, .ok [])

theorem exec_cons (t : Transport) (fails : Nat → Bool) (w : World) (act : Act) (rest : List Act) (reads : List (List Byte)) :
    exec t fails w (act :: rest) reads =
      match step t fails w act with
      | (j, w', .error e) => (j, w', .error e)
      | (j, w', .ok ds) =>
        (j ++ (exec t fails w' rest (reads ++ ds)).1, (exec t fails w' rest (reads ++ ds)).2) := by
  cases act with
  | wr | rd => simp only [exec, step]; split <;> simp_all
  | delay ms => simp [exec, step]

/-- the raw operations of one register access (a delay is journalled like one) -/
def frame : Transport → Act → List Raw
  | .i2c dev, .wr a v _ => [.i2cWrite dev [BitVec.ofNat 8 a, v]]
  | .i2c dev, .rd a n => [.i2cWriteRead dev [BitVec.ofNat 8 a] n]
  | .spi, .wr a v _ => [.csLow, .spiWrite [BitVec.ofNat 8 a, v], .csHigh]
  | .spi, .rd a n =>
    [.csLow, .spiTransfer [BitVec.ofNat 8 a ||| 0x80#8, 0#8], .spiTransfer (List.replicate n 0#8), .csHigh]
  | _, .delay ms => [.delay ms]

def acked (fr : List Raw) : List JEntry := fr.map (⟨·, true⟩)

/-- the journal of an access cut by the failure of operation `i` of its frame (`pin`: that operation moves
    chip-select): the operations before it acknowledged, the failed one, and after a failed SPI data operation
    the chip-select release (`okh`: acknowledged or not) -/
inductive Cut : Transport → Act → Nat → Bool → List JEntry → Prop
  | i2cWr (dev a v e) : Cut (.i2c dev) (.wr a v e) 0 false [⟨.i2cWrite dev [BitVec.ofNat 8 a, v], false⟩]
  | i2cRd (dev a n) : Cut (.i2c dev) (.rd a n) 0 false [⟨.i2cWriteRead dev [BitVec.ofNat 8 a] n, false⟩]
  | low (act) : Cut .spi act 0 true [⟨.csLow, false⟩]
  | wrData (a v e okh) : Cut .spi (.wr a v e) 1 false
      [⟨.csLow, true⟩, ⟨.spiWrite [BitVec.ofNat 8 a, v], false⟩, ⟨.csHigh, okh⟩]
  | wrHigh (a v e) : Cut .spi (.wr a v e) 2 true
      [⟨.csLow, true⟩, ⟨.spiWrite [BitVec.ofNat 8 a, v], true⟩, ⟨.csHigh, false⟩]
  | rdHead (a n okh) : Cut .spi (.rd a n) 1 false
      [⟨.csLow, true⟩, ⟨.spiTransfer [BitVec.ofNat 8 a ||| 0x80#8, 0#8], false⟩, ⟨.csHigh, okh⟩]
  | rdData (a n okh) : Cut .spi (.rd a n) 2 false
      [⟨.csLow, true⟩, ⟨.spiTransfer [BitVec.ofNat 8 a ||| 0x80#8, 0#8], true⟩,
       ⟨.spiTransfer (List.replicate n 0#8), false⟩, ⟨.csHigh, okh⟩]
  | rdHigh (a n) : Cut .spi (.rd a n) 3 true
      [⟨.csLow, true⟩, ⟨.spiTransfer [BitVec.ofNat 8 a ||| 0x80#8, 0#8], true⟩,
       ⟨.spiTransfer (List.replicate n 0#8), true⟩, ⟨.csHigh, false⟩]

/-- the chip after the acknowledged operations of a journal -/
def chipAfter (c : Chip) (j : List JEntry) : Chip := j.foldl (fun c e => chipIf e.ok c e.raw) c

/-- the bytes an acknowledged access returns -/
def bytesOf : Transport → Chip → Act → List (List Byte)
  | .i2c dev, c, .rd a n => [(c.raw (.i2cWriteRead dev [BitVec.ofNat 8 a] n)).2]
  | .spi, c, .rd a n =>
    [(((c.raw .csLow).1.raw (.spiTransfer [BitVec.ofNat 8 a ||| 0x80#8, 0#8])).1.raw (.spiTransfer (List.replicate n 0#8))).2]
  | _, _, _ => []

def recordOf (sh : Regs) : Act → Regs
  | .wr a v e => applyEff sh a v e
  | _ => sh

/-- raw operations that consume an index of the fault schedule -/
def opsOf (t : Transport) : Act → Nat
  | .delay _ => 0
  | act => (frame t act).length

theorem step_eq (t : Transport) (fails : Nat → Bool) (w : World) (act : Act) :
    step t fails w act =
      (acked (frame t act), ⟨chipAfter w.chip (acked (frame t act)), recordOf w.shadow act, w.idx + opsOf t act⟩,
        .ok (bytesOf t w.chip act)) ∨
    ∃ i pin s, Cut t act i pin s ∧ fails (w.idx + i) = true ∧
      step t fails w act =
        (s, ⟨chipAfter w.chip s, w.shadow, w.idx + s.length⟩,
          .error (if pin then .pin (w.idx + i) else .io (w.idx + i))) := by
  cases t <;> cases act <;>
    simp only [step, writeRegister_i2c, readRegister_i2c, writeRegister_spi, readRegister_spi]
  case i2c.delay | spi.delay => exact .inl rfl
  case i2c.wr =>
    cases f0 : fails w.idx
    · exact .inl rfl
    · exact .inr ⟨_, _, _, .i2cWr .., f0, rfl⟩
  case i2c.rd =>
    cases f0 : fails w.idx
    · exact .inl rfl
    · exact .inr ⟨_, _, _, .i2cRd .., f0, rfl⟩
  case spi.wr =>
    cases f0 : fails w.idx
    · cases f1 : fails (w.idx + 1)
      · cases f2 : fails (w.idx + 2)
        · exact .inl rfl
        · exact .inr ⟨_, _, _, .wrHigh .., f2, rfl⟩
      · exact .inr ⟨_, _, _, .wrData _ _ _ (!fails (w.idx + 2)), f1, rfl⟩
    · exact .inr ⟨_, _, _, .low _, f0, rfl⟩
  case spi.rd =>
    cases f0 : fails w.idx
    · cases f1 : fails (w.idx + 1)
      · cases f2 : fails (w.idx + 2)
        · cases f3 : fails (w.idx + 3)
          · exact .inl rfl
          · exact .inr ⟨_, _, _, .rdHigh .., f3, rfl⟩
        · exact .inr ⟨_, _, _, .rdData _ _ (!fails (w.idx + 3)), f2, rfl⟩
      · exact .inr ⟨_, _, _, .rdHead _ _ (!fails (w.idx + 2)), f1, rfl⟩
    · exact .inr ⟨_, _, _, .low _, f0, rfl⟩

theorem exec_ind (t : Transport) (fails : Nat → Bool)
    {motive : World → List Act → List (List Byte) → List JEntry × World × Except Err (List (List Byte)) → Prop}
    (nil : ∀ w reads, motive w [] reads ([], w, .ok reads))
    (stop : ∀ w act rest reads i pin s, Cut t act i pin s → fails (w.idx + i) = true →
      motive w (act :: rest) reads
        (s, ⟨chipAfter w.chip s, w.shadow, w.idx + s.length⟩,
          .error (if pin then .pin (w.idx + i) else .io (w.idx + i))))
    (next : ∀ w act rest reads r,
      motive ⟨chipAfter w.chip (acked (frame t act)), recordOf w.shadow act, w.idx + opsOf t act⟩ rest
        (reads ++ bytesOf t w.chip act) r →
      motive w (act :: rest) reads (acked (frame t act) ++ r.1, r.2))
    (acts : List Act) : ∀ w reads, motive w acts reads (exec t fails w acts reads) := by
  induction acts with
  | nil => exact nil
  | cons act rest ih =>
    intro w reads
    rw [exec_cons]
    rcases step_eq t fails w act with h | ⟨i, pin, s, hc, hf, h⟩ <;> rw [h]
    · exact next _ _ _ _ _ (ih _ _)
    · exact stop _ _ _ _ i pin s hc hf

theorem exec_cons_clean (t : Transport) (w : World) (act : Act) (rest : List Act) (reads : List (List Byte)) :
    exec t noFaults w (act :: rest) reads =
      let r := exec t noFaults ⟨chipAfter w.chip (acked (frame t act)), recordOf w.shadow act, w.idx + opsOf t act⟩ rest
        (reads ++ bytesOf t w.chip act)
      (acked (frame t act) ++ r.1, r.2) := by
  rw [exec_cons]
  rcases step_eq t noFaults w act with h | ⟨_, _, _, _, hf, _⟩
  · rw [h]
  · cases hf

theorem odf_acked (t : Transport) (act : Act) (rest : List JEntry) :
    onlyDataFailures (acked (frame t act) ++ rest) = onlyDataFailures rest := by
  simp [onlyDataFailures, acked]

def isOkR {α} : Except Err α → Bool
  | .ok _ => true
  | .error _ => false

theorem exec_clean (t : Transport) (acts : List Act) : ∀ (w : World) (reads : List (List Byte)),
    onlyDataFailures (exec t noFaults w acts reads).1 = true ∧ isOkR (exec t noFaults w acts reads).2.2 = true := by
  refine exec_ind t noFaults (motive := fun _ _ _ r => onlyDataFailures r.1 = true ∧ isOkR r.2.2 = true) ?_ ?_ ?_ acts
  · intro _ _; exact ⟨rfl, rfl⟩
  · intro _ _ _ _ _ _ _ _ hf; cases hf
  · intro w act rest reads r ih
    rw [odf_acked]
    exact ih

theorem exec_ok_shadow (t : Transport) (fails : Nat → Bool) (acts : List Act) :
    ∀ (w : World) (reads : List (List Byte)), isOkR (exec t fails w acts reads).2.2 = true →
      (exec t fails w acts reads).2.1.shadow = acts.foldl recordOf w.shadow := by
  refine exec_ind t fails (motive := fun w acts _ r => isOkR r.2.2 = true → r.2.1.shadow = acts.foldl recordOf w.shadow)
    ?_ ?_ ?_ acts
  · intro _ _ _; rfl
  · intro _ _ _ _ _ _ _ _ _ h; cases h
  · intro w act rest reads r ih h
    exact ih h

theorem decode_acked (t : Transport) (act : Act) (h : ActWf act) (rest : List JEntry) :
    decode t (acked (frame t act) ++ rest) = (decode t rest).map (Act.acc act :: ·) := by
  cases t <;> cases act
  case i2c.wr a v e | i2c.rd a n => simp [decode, frame, acked, decodeI2c, Act.acc, toNat_ofNat_lt h]
  case spi.wr a v e => simp [decode, frame, acked, decodeSpi, Act.acc, bit7_clear h, toNat_ofNat_lt h]
  case spi.rd a n => simp [decode, frame, acked, decodeSpi, Act.acc, bit7_set h, low7_read h]
  all_goals simp [decode, frame, acked, decodeI2c, decodeSpi, Act.acc]

theorem decode_cut {t : Transport} {act : Act} {i : Nat} {pin : Bool} {s : List JEntry} (hc : Cut t act i pin s)
    (h : ActWf act) : ∃ tail, decode t s = some tail ∧ okWrites tail = [] := by
  cases hc with
  | i2cWr | i2cRd | low => simp [decode, decodeI2c, decodeSpi, okWrites]
  | wrData | wrHigh => simp [decode, decodeSpi, okWrites, bit7_clear h]
  | rdHead | rdData | rdHigh => simp [decode, decodeSpi, okWrites, bit7_set h]

theorem decode_exec (t : Transport) (fails : Nat → Bool) (acts : List Act) (hwf : ActsWf acts) (w : World)
    (reads : List (List Byte)) :
    ∃ n tail, n ≤ acts.length ∧
      decode t (exec t fails w acts reads).1 = some ((acts.take n).map Act.acc ++ tail) ∧ okWrites tail = [] ∧
      (isOkR (exec t fails w acts reads).2.2 = true → (acts.take n).map Act.acc ++ tail = acts.map Act.acc) := by
  refine exec_ind t fails (motive := fun _ acts _ r => ActsWf acts → ∃ n tail, n ≤ acts.length ∧
    decode t r.1 = some ((acts.take n).map Act.acc ++ tail) ∧ okWrites tail = [] ∧
    (isOkR r.2.2 = true → (acts.take n).map Act.acc ++ tail = acts.map Act.acc)) ?_ ?_ ?_ acts w reads hwf
  · intro _ _ _; exact ⟨0, [], Nat.le_refl _, by cases t <;> rfl, rfl, fun _ => rfl⟩
  · intro w act rest reads i pin s hc _ hwf
    obtain ⟨tail, hd, ht⟩ := decode_cut hc (List.forall_mem_cons.1 hwf).1
    exact ⟨0, tail, Nat.zero_le _, hd, ht, fun h => by cases h⟩
  · intro w act rest reads r ih hwf
    obtain ⟨h1, h2⟩ := List.forall_mem_cons.1 hwf
    obtain ⟨n, tail, hn, hd, ht, hok⟩ := ih h2
    exact ⟨n + 1, tail, Nat.succ_le_succ hn, by rw [decode_acked t act h1, hd]; rfl, ht,
      fun h => congrArg (Act.acc act :: ·) (hok h)⟩

theorem decode_exact (t : Transport) (acts : List Act) (hwf : ActsWf acts) (w : World) (reads : List (List Byte)) :
    decode t (exec t noFaults w acts reads).1 = some (acts.map Act.acc) := by
  obtain ⟨n, tail, _, hd, _, hok⟩ := decode_exec t noFaults acts hwf w reads
  rw [hd, hok (exec_clean t acts w reads).2]

/-- the outcome of a call whose plan ran with result `r` -/
def callOutcome (finish : List (List Byte) → Option (Except Err String)) : Except Err (List (List Byte)) → Outcome
  | .error e => .err e
  | .ok reads => finishOutcome (finish reads)

theorem isOk_callOutcome {f : List (List Byte) → Option (Except Err String)} {r : Except Err (List (List Byte))} :
    (callOutcome f r).isOk = true → isOkR r = true := by
  cases r <;> simp [callOutcome, Outcome.isOk, isOkR]

theorem runOp_cases {motive : List JEntry × World × Outcome → Prop} (t : Transport) (fails : Nat → Bool) (w : World) (op : Op)
    (refused : ∀ e, (op.plan w.shadow).guard = some e → motive ([], { w with idx := 0 }, .err e))
    (ran : (op.plan w.shadow).guard = none → ∀ r, r = exec t fails { w with idx := 0 } (op.plan w.shadow).acts [] →
      motive (r.1, r.2.1, callOutcome (op.finish r.2.1.shadow) r.2.2)) :
    motive (runOp t fails w op) := by
  unfold runOp
  simp only
  split
  · exact refused _ ‹_›
  · have := ran ‹_› _ rfl
    unfold callOutcome at this
    split <;> simp_all

theorem runOp_refused (t : Transport) (fails : Nat → Bool) (w : World) (op : Op) (e : Err)
    (h : (op.plan w.shadow).guard = some e) : runOp t fails w op = ([], { w with idx := 0 }, .err e) := by
  simp only [runOp, h]

theorem runCtor_cases {motive : List JEntry × World × Outcome → Prop} (dev : Nat) (fails : Nat → Bool) (chip : Chip) (c : Ctor)
    (ran : ∀ r, r = exec (c.transport dev) fails { chip := chip, shadow := shadowDefault } c.acts [] →
      motive (r.1, r.2.1, callOutcome c.finish r.2.2)) :
    motive (runCtor dev fails chip c) := by
  unfold runCtor
  simp only
  have := ran _ rfl
  unfold callOutcome at this
  split <;> simp_all

end Thm
end Bma400
