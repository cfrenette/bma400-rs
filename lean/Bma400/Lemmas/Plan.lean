/- well-formedness of the action lists planned by every API operation -/
import Bma400.Lemmas.Exec
import Bma400.Lemmas.Scripts
namespace Bma400
namespace Thm

/-- the plan of a configuration request is empty, or the writes of its accepted script -/
theorem config_acts (q : Request) (sh : Regs) {p : Act → Prop} (h : ∀ ws, q.script sh = .ok ws → ∀ w ∈ ws, p w.act) :
    ∀ a ∈ ((Op.config q).plan sh).acts, p a := by
  simp only [Op.plan]
  split
  · exact fun _ h => nomatch h
  · simp only [List.forall_mem_map]; exact h _ ‹_›

theorem plan_wf (sh : Regs) (op : Op) : ActsWf (op.plan sh).acts := by
  unfold ActsWf
  cases op with
  | config q =>
    exact config_acts q sh fun ws hs w hw => Nat.lt_trans (cfg_range _ (script_addr_cfg q sh ws hs w hw)).2 (by decide)
  | readFifo n =>
    simp only [Op.plan]
    split <;> simp only [List.forall_mem_cons, forall_mem_nil_iff, and_true, ActWf]
    decide
  | _ =>
    simp only [Op.plan, selfTestActs, List.forall_mem_cons, forall_mem_nil_iff, and_true, ActWf]
    decide

theorem ctor_wf (c : Ctor) : ActsWf c.acts := by
  unfold ActsWf
  cases c <;> simp only [Ctor.acts, List.forall_mem_cons, forall_mem_nil_iff, and_true, ActWf] <;> decide

end Thm
end Bma400
