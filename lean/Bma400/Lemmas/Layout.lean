/- Every builder's `write()` has one layout: block registers `B0`, the enable registers `Ts` put to
   temporary values, block registers `B1`, the `Ts` registers put to their final values, block
   registers `B2` - each register skipped when it already holds its value (`dws`).  What a
   script writes to one address (`valuesAt`) is read off the layout; the device effect follows,
   since a register ends up holding the last value written to it. -/
import Bma400.Lemmas.Writes
namespace Bma400
namespace Thm
open P

/-- `tmp` and `fin` are only looked at in the registers `Ts` -/
structure Layout where
  B0 : List Nat := []
  Ts : List Nat := []
  tmp : Regs
  B1 : List Nat
  fin : Regs
  B2 : List Nat := []

namespace Layout
variable (L : Layout) (sh rq : Regs)

/-- bracketed `(_ ++ _ ++ _) ++ (_ ++ _)`, as `mem_script` splits it; `Layout.C07` walks it as the writes to
    `B1` between two stretches that touch no parameter -/
def script : List W :=
  dws sh rq L.B0 ++ dws sh L.tmp L.Ts ++ dws sh rq L.B1 ++ (dws L.tmp L.fin L.Ts ++ dws sh rq L.B2)

/-- the block registers, in the order they are written -/
def body : List Nat := L.B0 ++ L.B1 ++ L.B2

def Sep : Prop := L.Ts.Nodup ∧ L.body.Nodup ∧ ∀ a ∈ L.Ts, a ∉ L.body

variable {L sh rq}

theorem mem_script {w : W} (h : w ∈ L.script sh rq) :
    (w.addr ∈ L.body ∧ w.val = rq w.addr) ∨
    (w.addr ∈ L.Ts ∧ (w.val = L.tmp w.addr ∨ w.val = L.fin w.addr)) := by
  simp only [script, List.mem_append] at h
  simp only [body, List.mem_append]
  rcases h with ((h | h) | h) | h | h <;> have := mem_dws h <;> simp [this.1, this.2.1]

theorem valuesAt_body {a : Nat} (hs : L.Sep) (hT : a ∉ L.Ts) :
    valuesAt (L.script sh rq) a = if a ∈ L.body ∧ sh a ≠ rq a then [rq a] else [] := by
  rw [← valuesAt_dws sh rq L.body hs.2.1]
  simp [script, body, dws_append, valuesAt_append, valuesAt_dws_notin hT]

theorem valuesAt_toggle {a : Nat} (hs : L.Sep) (hT : a ∈ L.Ts) :
    valuesAt (L.script sh rq) a =
      (if sh a ≠ L.tmp a then [L.tmp a] else []) ++ (if L.tmp a ≠ L.fin a then [L.fin a] else []) := by
  have hB := hs.2.2 a hT
  simp only [body, List.mem_append, not_or] at hB
  simp [script, valuesAt_append, valuesAt_dws _ _ _ hs.1, valuesAt_dws_notin, hB, hT]

theorem effect (hs : L.Sep) (c : Regs) (hco : ∀ a ∈ L.Ts ++ L.body, c a = sh a) (x : Nat) :
    applyWrites c (L.script sh rq) x = if x ∈ L.Ts then L.fin x else if x ∈ L.body then rq x else c x := by
  rw [applyWrites_last]
  by_cases hT : x ∈ L.Ts
  · have := hco x (by simp [hT])
    rw [valuesAt_toggle hs hT, if_pos hT]
    split <;> split <;> simp_all
  · rw [valuesAt_body hs hT, if_neg hT]
    by_cases hB : x ∈ L.body
    · have := hco x (by simp [hB])
      by_cases h : sh x = rq x <;> simp [*]
    · simp [hB]

theorem script_nil (hB : ∀ a ∈ L.body, sh a = rq a) (hT : ∀ e ∈ L.Ts, L.tmp e = sh e ∧ L.fin e = sh e) :
    L.script sh rq = [] := by
  simp only [body, List.mem_append] at hB
  simp [script, dws_eq_nil sh rq L.B0 (fun a h => hB a (.inl (.inl h))), dws_eq_nil sh rq L.B1 (fun a h => hB a (.inl (.inr h))),
    dws_eq_nil sh rq L.B2 (fun a h => hB a (.inr h)), dws_eq_nil sh L.tmp L.Ts (fun e h => (hT e h).1.symm),
    dws_eq_nil L.tmp L.fin L.Ts (fun e h => (hT e h).1.trans (hT e h).2.symm)]

end Layout
end Thm
end Bma400
