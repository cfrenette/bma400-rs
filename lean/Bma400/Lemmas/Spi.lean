/- what a complete SPI chip-select window does to the simulated chip: the byte-level SPI
   front end (Chip.clock) decodes the driver's framing into exactly the register access
   the datasheet describes -/
import Bma400.Lemmas.Exec
namespace Bma400
namespace Thm

/-- the part of the chip the device logic can observe through register accesses -/
def Chip.Same (c d : Chip) : Prop := c.regs = d.regs ∧ c.pos = d.pos ∧ c.neg = d.neg ∧ c.fifo = d.fifo

theorem Chip.Same.refl (c : Chip) : Chip.Same c c := ⟨rfl, rfl, rfl, rfl⟩

theorem Chip.Same.trans {a b c : Chip} (h1 : Chip.Same a b) (h2 : Chip.Same b c) : Chip.Same a c :=
  ⟨h1.1.trans h2.1, h1.2.1.trans h2.2.1, h1.2.2.1.trans h2.2.2.1, h1.2.2.2.trans h2.2.2.2⟩

theorem Chip.Same.symm {a b : Chip} (h : Chip.Same a b) : Chip.Same b a :=
  ⟨h.1.symm, h.2.1.symm, h.2.2.1.symm, h.2.2.2.symm⟩

theorem write_same {c d : Chip} (h : Chip.Same c d) (a : Nat) (v : Byte) : Chip.Same (c.write a v) (d.write a v) := by
  obtain ⟨h1, h2, h3, h4⟩ := h
  unfold Chip.write
  split
  · split
    · exact ⟨by simp [h1], h2, h3, h4⟩
    · exact ⟨h1, h2, h3, h4⟩
  · split
    · exact ⟨h1, h2, h3, h4⟩
    · exact ⟨by simp [h1], h2, h3, h4⟩

theorem burst_same {c d : Chip} (h : Chip.Same c d) (a n : Nat) : c.burst a n = d.burst a n := by
  unfold Chip.burst
  split
  · rw [h.2.2.2]
  · congr 1; unfold Chip.dataAt; rw [h.1, h.2.1, h.2.2.1]

/-- a complete write window: the register write of the datasheet, chip-select back high -/
theorem spi_write_window (c : Chip) (a : Nat) (v : Byte) (hcs : c.csHigh = true) (ha : a < 128) :
    Chip.Same (((c.raw .csLow).1.raw (.spiWrite [BitVec.ofNat 8 a, v])).1.raw .csHigh).1 (c.write a v) ∧
    (((c.raw .csLow).1.raw (.spiWrite [BitVec.ofNat 8 a, v])).1.raw .csHigh).1.csHigh = true ∧
    (((c.raw .csLow).1.raw (.spiWrite [BitVec.ofNat 8 a, v])).1.raw .csHigh).1.spiMode = true ∧
    (((c.raw .csLow).1.raw (.spiWrite [BitVec.ofNat 8 a, v])).1.raw .csHigh).1.dummy = c.dummy := by
  simp only [Chip.raw, hcs, if_true, Chip.clockAll, Chip.clock, Bool.false_eq_true, if_false,
    bit7_clear ha, bne_self_eq_false, low7_write ha, show (1 : Nat) % 2 = 1 from rfl, show ((1 : Nat) = 0) = False by simp]
  refine ⟨?_, by simp, by simp, ?_⟩
  · unfold Chip.write Chip.Same
    split <;> split <;> simp
  · unfold Chip.write
    split <;> split <;> rfl

/-- the byte a chip in read mode shifts out at data position j -/
def readOut (c : Chip) (j : Nat) : Byte :=
  if (c.winFirst &&& 0x7F#8).toNat = 0x14 then c.fifo.getD j 0#8
  else c.dataAt ((c.winFirst &&& 0x7F#8).toNat + j)

/-- clocking out n bytes in read mode from window position k+2 moves the window position and nothing else -/
theorem clockAll_read (n : Nat) : ∀ (c : Chip) (k : Nat), c.csHigh = false → c.winLen = k + 2 →
    ((c.winFirst &&& 0x80#8) != 0#8) = true → c.spiMode = true →
    ∃ l, c.clockAll (List.replicate n 0#8) =
      ({ c with winLen := c.winLen + n, winLast := l }, (List.range' k n).map (readOut c)) := by
  induction n with
  | zero => intro c k _ _ _ _; exact ⟨c.winLast, rfl⟩
  | succ n ih =>
    intro c k hcs hw hf hsm
    have hstep : c.clock 0#8 = ({ c with winLen := c.winLen + 1, winLast := 0#8 }, readOut c k) := by
      unfold Chip.clock readOut
      simp only [hcs, Bool.false_eq_true, if_false, show c.winLen ≠ 0 by omega, hf, if_true, show c.winLen ≠ 1 by omega, hsm,
        Bool.not_true]
      rw [show c.winLen - 2 = k by omega]
    obtain ⟨l, h⟩ := ih { c with winLen := c.winLen + 1, winLast := 0#8 } (k + 1) hcs (by simp; omega) hf hsm
    refine ⟨l, ?_⟩
    simp only [List.replicate_succ, Chip.clockAll, hstep, h, List.range'_succ, List.map_cons, Nat.add_right_comm _ 1]
    -- `readOut` does not look at the window position
    rfl

/-- a complete read window: the burst of the datasheet, chip unchanged, chip-select high -/
theorem spi_read_window (c : Chip) (a n : Nat) (hcs : c.csHigh = true) (hsm : c.spiMode = true) (ha : a < 128) :
    ((((c.raw .csLow).1.raw (.spiTransfer [BitVec.ofNat 8 a ||| 0x80#8, 0#8])).1.raw
        (.spiTransfer (List.replicate n 0#8)))).2 = c.burst a n ∧
    Chip.Same (((((c.raw .csLow).1.raw (.spiTransfer [BitVec.ofNat 8 a ||| 0x80#8, 0#8])).1.raw
        (.spiTransfer (List.replicate n 0#8)))).1.raw .csHigh).1 c ∧
    (((((c.raw .csLow).1.raw (.spiTransfer [BitVec.ofNat 8 a ||| 0x80#8, 0#8])).1.raw
        (.spiTransfer (List.replicate n 0#8)))).1.raw .csHigh).1.csHigh = true ∧
    (((((c.raw .csLow).1.raw (.spiTransfer [BitVec.ofNat 8 a ||| 0x80#8, 0#8])).1.raw
        (.spiTransfer (List.replicate n 0#8)))).1.raw .csHigh).1.spiMode = true ∧
    (((((c.raw .csLow).1.raw (.spiTransfer [BitVec.ofNat 8 a ||| 0x80#8, 0#8])).1.raw
        (.spiTransfer (List.replicate n 0#8)))).1.raw .csHigh).1.dummy = c.dummy := by
  simp only [Chip.raw, hcs, if_true]
  have hc1 : ({ c with csHigh := false, winLen := 0 } : Chip).clockAll [BitVec.ofNat 8 a ||| 0x80#8, 0#8] =
      ({ c with csHigh := false, winLen := 2, winFirst := BitVec.ofNat 8 a ||| 0x80#8, winLast := 0#8 }, [0#8, 0#8]) := by
    simp [Chip.clockAll, Chip.clock, bit7_set ha]
  obtain ⟨l, h⟩ := clockAll_read n
    { c with csHigh := false, winLen := 2, winFirst := BitVec.ofNat 8 a ||| 0x80#8, winLast := 0#8 } 0
    rfl rfl (bne_iff_ne.mpr (bit7_set ha)) hsm
  rw [hc1, h]
  refine ⟨?_, ⟨rfl, rfl, rfl, rfl⟩, trivial, trivial, rfl⟩
  rw [← List.range_eq_range']
  unfold readOut Chip.burst
  simp only [low7_read ha]
  split
  · rfl
  · congr 1

theorem csLow_same (c : Chip) (hcs : c.csHigh = true) : Chip.Same (c.raw .csLow).1 c := by
  simp [Chip.raw, hcs, Chip.Same]

theorem csHigh_props (c : Chip) :
    Chip.Same (c.raw .csHigh).1 c ∧ (c.raw .csHigh).1.csHigh = true ∧ (c.raw .csHigh).1.spiMode = true := by
  simp [Chip.raw, Chip.Same]

theorem read_header_same (c : Chip) (a : Nat) (hcs : c.csHigh = true) (ha : a < 128) :
    Chip.Same ((c.raw .csLow).1.raw (.spiTransfer [BitVec.ofNat 8 a ||| 0x80#8, 0#8])).1 c := by
  simp [Chip.raw, hcs, Chip.clockAll, Chip.clock, bit7_set ha, Chip.Same]

/-- the chip after the throw-away access: same content, chip-select high, SPI mode -/
theorem after_dummy (chip : Chip) (hcs : chip.csHigh = true) :
    let c := ((((chip.raw .csLow).1.raw (.spiTransfer [BitVec.ofNat 8 0 ||| 0x80#8, 0#8])).1.raw
        (.spiTransfer (List.replicate 1 0#8))).1.raw .csHigh).1
    Chip.Same c chip ∧ c.csHigh = true ∧ c.spiMode = true := by
  simp [Chip.raw, hcs, Chip.clockAll, Chip.clock, Chip.Same]

end Thm
end Bma400
