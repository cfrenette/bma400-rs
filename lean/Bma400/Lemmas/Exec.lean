/- what an executed action shows on the bus (`Act.acc`), actions with 7-bit addresses (`ActWf`), and the closed
   forms of `writeRegister` / `readRegister` (Driver.lean) over both transports, for an arbitrary fault schedule -/
import Bma400.Props
namespace Bma400
namespace Thm
open P

/-- the register access an executed action shows on the bus -/
def Act.acc : Act → Acc
  | .wr a v _ => .wr a v true
  | .rd a n => .rd a n true
  | .delay ms => .delay ms

/-- register addresses fit the 7-bit address space of the chip -/
def ActWf : Act → Prop
  | .wr a _ _ => a < 128
  | .rd a _ => a < 128
  | .delay _ => True

def ActsWf (acts : List Act) : Prop := ∀ act ∈ acts, ActWf act

def noFaults : Nat → Bool := fun _ => false
@[simp] theorem noFaults_apply (i : Nat) : noFaults i = false := rfl

theorem toNat_ofNat_lt {a : Nat} (h : a < 128) : (BitVec.ofNat 8 a).toNat = a := by
  simp [BitVec.toNat_ofNat]; omega

theorem bit7_clear : ∀ {a}, a < 128 → (BitVec.ofNat 8 a &&& 0x80#8) = 0#8 := by decide +kernel
theorem bit7_set : ∀ {a}, a < 128 → ((BitVec.ofNat 8 a ||| 0x80#8) &&& 0x80#8) ≠ 0#8 := by decide +kernel
theorem low7_read : ∀ {a}, a < 128 → ((BitVec.ofNat 8 a ||| 0x80#8) &&& 0x7F#8).toNat = a := by decide +kernel
theorem low7_write : ∀ {a}, a < 128 → (BitVec.ofNat 8 a &&& 0x7F#8).toNat = a := by decide +kernel

/-- with `List.forall_mem_cons`, states a fact about every member of a list literal member by member -/
theorem forall_mem_nil_iff {α} (p : α → Prop) : (∀ x ∈ ([] : List α), p x) ↔ True := by simp

/-- chip after an acknowledged-or-not raw operation -/
def chipIf (ok : Bool) (c : Chip) (r : Raw) : Chip := if ok then (c.raw r).1 else c

theorem writeRegister_spi (fails : Nat → Bool) (w : World) (a : Nat) (v : Byte) :
    writeRegister .spi fails w a v =
      if fails w.idx then ([⟨.csLow, false⟩], { w with idx := w.idx + 1 }, some (.pin w.idx))
      else
        let ok1 := !fails (w.idx + 1)
        let ok2 := !fails (w.idx + 2)
        let c0 := (w.chip.raw .csLow).1
        let c1 := chipIf ok1 c0 (.spiWrite [BitVec.ofNat 8 a, v])
        let c2 := chipIf ok2 c1 .csHigh
        ([⟨.csLow, true⟩, ⟨.spiWrite [BitVec.ofNat 8 a, v], ok1⟩, ⟨.csHigh, ok2⟩],
         { chip := c2, shadow := w.shadow, idx := w.idx + 3 },
         if !ok1 then some (.io (w.idx + 1)) else if !ok2 then some (.pin (w.idx + 2)) else none) := by
  unfold writeRegister World.raw chipIf
  cases h0 : fails w.idx <;> cases h1 : fails (w.idx + 1) <;> cases h2 : fails (w.idx + 2) <;>
    simp [h1, h2, show w.idx + 1 + 1 = w.idx + 2 from rfl]

theorem readRegister_spi (fails : Nat → Bool) (w : World) (a n : Nat) :
    readRegister .spi fails w a n =
      if fails w.idx then ([⟨.csLow, false⟩], { w with idx := w.idx + 1 }, .error (.pin w.idx))
      else
        let c0 := (w.chip.raw .csLow).1
        let t1 : Raw := .spiTransfer [BitVec.ofNat 8 a ||| 0x80#8, 0#8]
        let t2 : Raw := .spiTransfer (List.replicate n 0#8)
        if fails (w.idx + 1) then
          let ok2 := !fails (w.idx + 2)
          ([⟨.csLow, true⟩, ⟨t1, false⟩, ⟨.csHigh, ok2⟩],
           { chip := chipIf ok2 c0 .csHigh, shadow := w.shadow, idx := w.idx + 3 }, .error (.io (w.idx + 1)))
        else
          let c1 := (c0.raw t1).1
          let ok2 := !fails (w.idx + 2)
          let ok3 := !fails (w.idx + 3)
          let c2 := chipIf ok2 c1 t2
          let c3 := chipIf ok3 c2 .csHigh
          ([⟨.csLow, true⟩, ⟨t1, true⟩, ⟨t2, ok2⟩, ⟨.csHigh, ok3⟩],
           { chip := c3, shadow := w.shadow, idx := w.idx + 4 },
           if !ok2 then .error (.io (w.idx + 2)) else if !ok3 then .error (.pin (w.idx + 3))
           else .ok (c1.raw t2).2) := by
  unfold readRegister World.raw chipIf
  cases h0 : fails w.idx <;> cases h1 : fails (w.idx + 1) <;> cases h2 : fails (w.idx + 2) <;>
    cases h3 : fails (w.idx + 3) <;>
    simp [h1, h2, h3, show w.idx + 1 + 1 = w.idx + 2 from rfl, show w.idx + 1 + 1 + 1 = w.idx + 3 from rfl]

theorem writeRegister_i2c (dev : Nat) (fails : Nat → Bool) (w : World) (a : Nat) (v : Byte) :
    writeRegister (.i2c dev) fails w a v =
      let ok := !fails w.idx
      ([⟨.i2cWrite dev [BitVec.ofNat 8 a, v], ok⟩],
       { chip := chipIf ok w.chip (.i2cWrite dev [BitVec.ofNat 8 a, v]), shadow := w.shadow, idx := w.idx + 1 },
       if ok then none else some (.io w.idx)) := by
  unfold writeRegister World.raw chipIf
  cases h0 : fails w.idx <;> simp

theorem readRegister_i2c (dev : Nat) (fails : Nat → Bool) (w : World) (a n : Nat) :
    readRegister (.i2c dev) fails w a n =
      let ok := !fails w.idx
      ([⟨.i2cWriteRead dev [BitVec.ofNat 8 a] n, ok⟩],
       { chip := chipIf ok w.chip (.i2cWriteRead dev [BitVec.ofNat 8 a] n), shadow := w.shadow, idx := w.idx + 1 },
       if ok then .ok (w.chip.raw (.i2cWriteRead dev [BitVec.ofNat 8 a] n)).2 else .error (.io w.idx)) := by
  unfold readRegister World.raw chipIf
  cases h0 : fails w.idx <;> simp

end Thm
end Bma400
