/-
  The byte-level meaning of a datasheet field write, `Field.ins`, and the enum encoders of
  registers.rs (model: Regs.lean) characterised through it, once: `Enc e f code`.  Thm/C02 (model
  = datasheet) and Thm/Encoders (translated source = model) both rest on these.
-/
import Bma400.Spec
namespace Bma400
namespace Thm
open R DS DS.F

/-- what `Field.put` does to the byte of the field's register -/
def _root_.Bma400.DS.Field.ins : Field → Nat → Byte → Byte
  | ⟨_, m, s⟩, c, b => (b &&& ~~~m) ||| ((BitVec.ofNat 8 c <<< s) &&& m)

theorem _root_.Bma400.DS.Field.put_eq_upd (f : Field) (c : Nat) (r : Regs) : f.put c r = upd r f.addr (f.ins c) := rfl

theorem or_and_distrib (n k s : Byte) : n &&& k ||| s = (n ||| s) &&& (k ||| s) := by
  ext i; simp [Bool.or_and_distrib_right]

theorem or_of_cover {n k s : Byte} (h : k ||| s = 0xFF#8) : n &&& k ||| s = n ||| s := by
  rw [or_and_distrib, h]; exact BitVec.and_allOnes

/-! The three shapes in which registers.rs writes a field: `difference(MASK)` (code 0),
    `union(MASK)` (all ones), and `difference(MASK).union(BITS)`, which is `Field.ins` by `rfl`. -/
theorem ins_zero (f : Field) (b : Byte) : clr b f.mask = f.ins 0 b := by simp [clr, Field.ins]
theorem ins_ones (f : Field) (c : Nat) (b : Byte) (h : f.ins c 0#8 = f.mask := by rfl) : uni b f.mask = f.ins c b := by
  simp only [Field.ins, BitVec.zero_and, BitVec.zero_or] at h
  rw [Field.ins, h, or_of_cover (BitVec.not_or_self _)]; rfl

/-- encoder `e` writes field `f`, variant `v` as code `code v` -/
abbrev Enc {α : Type} (e : Byte → α → Byte) (f : Field) (code : α → Nat) : Prop := ∀ b v, e b v = f.ins (code v) b

/-- every variant is written in one of the three shapes (or with its bits in two unions) -/
macro "enc_cases" f:term : tactic =>
  `(tactic| (intro b v; cases v <;>
      first | rfl | exact ins_zero $f b | exact ins_ones $f _ b | exact (BitVec.or_assoc _ _ _).trans rfl))

theorem ins_filt1_bw : Enc acc0_with_filt1_bw filt1_bw codeFilt1Bw := by enc_cases filt1_bw
theorem ins_osr_lp : Enc acc0_with_osr_lp osr_lp codeOSR := by enc_cases osr_lp
theorem ins_power_mode : Enc acc0_with_power_mode power_mode codePowerMode := by enc_cases power_mode
theorem ins_scale : Enc acc1_with_scale acc_range codeScale := by enc_cases acc_range
theorem ins_osr : Enc acc1_with_osr F.osr codeOSR := by enc_cases F.osr
theorem ins_odr : Enc acc1_with_odr acc_odr codeODR := by enc_cases acc_odr
theorem ins_dta_reg_src : Enc acc2_with_dta_reg_src data_src_reg codeDataSrcReg := by enc_cases data_src_reg
theorem ins_fifo_src : Enc fifoSrc fifo_data_src codeSrc01 := by enc_cases fifo_data_src
theorem ins_alp_mode : Enc alp1_with_timeout_mode auto_lp_timeout codeAutoLpTrig := by enc_cases auto_lp_timeout
theorem ins_wkup_refu : Enc wk0_with_reference_mode wkup_refu codeWkupRef := by enc_cases wkup_refu
theorem ins_ori_src : Enc oriSrc orient_data_src codeOrientSrc := by enc_cases orient_data_src
theorem ins_ori_refu : Enc or0_with_update_mode orient_refu codeOrientRef := by enc_cases orient_refu
/-! the encoders of GEN1 and GEN2 are the same code; the field's address plays no part in `ins` -/
theorem ins_gen_src (a : Nat) : Enc genSrc (gen_data_src a) codeSrc01 := by enc_cases (gen_data_src a)
theorem ins_gen_refu (a : Nat) : Enc g0_with_refu_mode (gen_refu a) codeGenRef := by enc_cases (gen_refu a)
theorem ins_gen_hyst (a : Nat) : Enc g0_with_act_hysteresis (gen_hyst a) codeHyst := by enc_cases (gen_hyst a)
theorem ins_gen_criterion (a : Nat) : Enc g1_with_criterion_sel (gen_criterion a) codeCriterion := by
  enc_cases (gen_criterion a)
theorem ins_gen_comb (a : Nat) : Enc g1_with_comb_sel (gen_comb a) codeLogic := by enc_cases (gen_comb a)
theorem ins_act_src : Enc actSrc actch_data_src codeSrc01 := by enc_cases actch_data_src
theorem ins_tap_axis : Enc tap0_with_axis tap_sel_axis codeAxis := by enc_cases tap_sel_axis
theorem ins_min_tap : Enc tap1_with_min_tap_duration tap_quiet_dt codeMinTap := by enc_cases tap_quiet_dt
theorem ins_dtap : Enc tap1_with_double_tap_duration tap_quiet codeDTap := by enc_cases tap_quiet
theorem ins_max_tap : Enc tap1_with_max_tap_duration tap_tics_th codeMaxTap := by enc_cases tap_tics_th
theorem ins_obs_period : Enc ac1_with_observation_period actch_npts codeObs := by enc_cases actch_npts
theorem ins_tap_sens : Enc tap0_with_sensitivity tap_sensitivity codeTapSens := by enc_cases tap_sensitivity

end Thm
end Bma400
