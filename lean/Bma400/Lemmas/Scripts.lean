/- the layout of every builder's `write()` -/
import Bma400.Lemmas.Layout
namespace Bma400
open P R

/-- enable register and bits of an interrupt -/
def DS.Intr.reg : DS.Intr → Nat
  | .gen1 | .gen2 | .orient | .fwm => 0x1F
  | .actch | .tap => 0x20
  | .wkup => 0x2F

/-- in the driver's names for the bits, as the scripts have them; the values are those of `Intr.enabled` (`enabled_eq`) -/
def DS.Intr.mask : DS.Intr → Byte
  | .gen1 => ic0_GEN1 | .gen2 => ic0_GEN2 | .actch => ic1_ACTCH | .tap => uni ic1_STAP ic1_DTAP | .orient => ic0_ORIENTCH
  | .wkup => wk0_AXES | .fwm => ic0_FWM

def GenId.intr : GenId → DS.Intr | .g1 => .gen1 | .g2 => .gen2

theorem GenId.intr_reg (g : GenId) : g.intr.reg = 0x1F := by cases g <;> rfl
theorem GenId.intr_mask (g : GenId) : g.intr.mask = g.enMask := by cases g <;> rfl

namespace Thm

theorem enabled_eq (X : DS.Intr) (r : Regs) : X.enabled r = has (r X.reg) X.mask := by cases X <;> rfl

/-- `sh` with interrupt `X` switched off, if it is on and `go` holds -/
def hold (X : DS.Intr) (go : Bool) (sh : Regs) : Regs :=
  sh.set X.reg (if has (sh X.reg) X.mask && go then clr (sh X.reg) X.mask else sh X.reg)

theorem foldl_clrIf_sub {c : Byte} (l : List (Bool × Byte)) {t : Byte} (h : t &&& ~~~c = 0#8) :
    l.foldl clrIf t &&& ~~~c = 0#8 := by
  induction l generalizing t with
  | nil => exact h
  | cons p ps ih =>
    apply ih
    unfold clrIf
    split
    · exact clr_sub h
    · exact h

def pinTmp (sh rq : Regs) : Regs :=
  ((sh.set 0x1F (pinTmp0 sh rq)).set 0x20 (pinTmp1 sh rq)).set 0x2F (pinTmpW sh rq)

/-- the pin-mapping builder's temporaries are sub-values of the originals: each is the original,
    cleared altogether or with some bits cleared one by one -/
theorem pinTmp_sub (sh rq : Regs) (e : Nat) : pinTmp sh rq e &&& ~~~sh e = 0#8 := by
  simp only [pinTmp, Regs.set_apply]
  split
  · rename_i h; simp only [h, pinTmpW]; split
    · exact sub_refl _
    · exact foldl_clrIf_sub [_] (sub_refl _)
  split
  · rename_i h; simp only [h, pinTmp1]; split
    · exact xor_self_sub _
    · exact foldl_clrIf_sub _ (sub_refl _)
  split
  · rename_i h; simp only [h, pinTmp0]; split
    · exact xor_self_sub _
    · exact foldl_clrIf_sub _ (sub_refl _)
  · exact sub_refl _

/-- a builder that puts the enable registers `Ts` to `tmp` while it writes its block `B`, none of
    whose registers is an interrupt parameter -/
def Layout.toggled (Ts B : List Nat) (tmp sh : Regs) : Layout := { Ts := Ts, tmp := tmp, B1 := B, fin := sh }

/-- a builder that writes its block and nothing else -/
def Layout.plain (B : List Nat) (sh : Regs) : Layout := .toggled [] B sh sh

/-- a builder that switches interrupt `X` off while it rewrites `B1`, if one of the registers `G`
    changes; `own`: the enable register belongs to the block and ends up holding the request (the
    wake-up builder, whose `G` is `B1` and that register).  `B0` / `B2`: block registers written before
    and after the suspended section (fifo_config.rs writes 0x26 before and 0x29 after it). -/
def Layout.guarded (X : DS.Intr) (G : List Nat) (own : Bool) (B0 B1 B2 : List Nat) (sh rq : Regs) : Layout :=
  { B0 := B0, Ts := [X.reg], tmp := hold X (chg sh rq G) sh, B1 := B1, fin := if own then rq else sh, B2 := B2 }

def layout (sh rq : Regs) : Request → Layout
  | .acc _ => .plain [0x19, 0x1A, 0x1B] sh
  | .int _ => .plain [0x1F, 0x20] sh
  | .pin _ => .toggled [0x1F, 0x20, 0x2F] [0x21, 0x22, 0x23, 0x24] (pinTmp sh rq) sh
  | .fifo _ => .guarded .fwm [0x27, 0x28] false [0x26] [0x27, 0x28] [0x29] sh rq
  | .alp _ => .plain [0x2A, 0x2B] sh
  | .awk _ => .plain [0x2C, 0x2D] sh
  | .wkup _ => .guarded .wkup [0x2F, 0x30, 0x31, 0x32, 0x33] true [] [0x30, 0x31, 0x32, 0x33] [] sh rq
  | .ori _ => .guarded .orient oriBlock false [] oriBlock [] sh rq
  | .gen g _ => .guarded g.intr (genBlock g) false [] (genBlock g) [] sh rq
  | .act _ => .guarded .actch [0x55, 0x56] false [] [0x55, 0x56] [] sh rq
  | .tap _ => .guarded .tap [0x57, 0x58] false [] [0x57, 0x58] [] sh rq

theorem plain_script (B : List Nat) (sh rq : Regs) : (Layout.plain B sh).script sh rq = dws sh rq B := by
  simp [Layout.script, Layout.plain, Layout.toggled, dws]

theorem dws_single (cur tgt : Regs) (e : Nat) : dws cur tgt [e] = wIf (cur e != tgt e) e (tgt e) := by
  simp [dws, dw_wIf]

/-- the disable is sent exactly when it changes the register -/
theorem wIf_clr {d : Bool} {e : Nat} {c m : Byte} (hd : d = true → has c m = true) :
    wIf d e (if d then clr c m else c) = wIf (c != if d then clr c m else c) e (if d then clr c m else c) := by
  cases d
  · simp [wIf]
  · simp [wIf, (has_clr_ne c m (hd rfl)).symm]

/-- the script of a guarded layout, in the form the builders write it -/
theorem guarded_script (X : DS.Intr) (G : List Nat) (own : Bool) (B0 B1 B2 : List Nat) (sh rq : Regs) :
    (Layout.guarded X G own B0 B1 B2 sh rq).script sh rq =
      dws sh rq B0 ++ wIf (has (sh X.reg) X.mask && chg sh rq G) X.reg (hold X (chg sh rq G) sh X.reg) ++ dws sh rq B1 ++
        (wIf (hold X (chg sh rq G) sh X.reg != (if own then rq else sh) X.reg) X.reg ((if own then rq else sh) X.reg) ++
          dws sh rq B2) := by
  simp only [Layout.script, Layout.guarded, dws_single, hold, Regs.set_same]
  rw [wIf_clr (by simp; intro h _; exact h)]

/-- an accepted request has passed the check `c` -/
theorem passed {c : Prop} [Decidable c] {e : CfgErr} {x : Except CfgErr (List W)} {ws : List W}
    (h : (if c then .error e else x) = .ok ws) : x = .ok ws := by
  split at h
  · cases h
  · exact h

/-- `write()` of a builder that returns early when nothing changes and validates otherwise -/
theorem checked_ok {c bad : Bool} {e : CfgErr} {ws' ws : List W}
    (h : (if !c then .ok [] else if bad then .error e else .ok ws') = Except.ok ws) :
    c = false ∧ ws = [] ∨ c = true ∧ ws = ws' := by
  cases c <;> cases bad <;> simp_all

theorem script_layout {q : Request} {sh : Regs} {ws : List W} (h : q.script sh = .ok ws) :
    ws = (layout sh (q.target sh) q).script sh (q.target sh) := by
  unfold Request.script at h
  generalize q.target sh = rq at h ⊢
  cases q with
  | acc l => cases passed (passed h); exact (plain_script ..).symm
  | int l => cases passed (passed (passed (passed h))); exact (plain_script ..).symm
  | alp l | awk l => cases h; exact (plain_script ..).symm
  | pin l =>
    cases h
    simp [layout, Layout.script, Layout.toggled, pinTmp, dws, dw_wIf, bne_comm]
  | fifo l | ori l =>
    cases h
    simp [layout, guarded_script, hold, DS.Intr.reg, DS.Intr.mask, dws, bne_comm]
  | wkup l =>
    cases h
    simp [layout, guarded_script, hold, DS.Intr.reg, DS.Intr.mask, wk0_AXES, ← clr_clr, dws]
  | gen g l =>
    simp only [layout, guarded_script]
    rcases checked_ok h with ⟨hc, rfl⟩ | ⟨hc, rfl⟩
    · rw [dws_eq_nil _ _ _ (chg_false.1 hc)]; simp [hc, hold, wIf, dws]
    · simp [hc, hold, GenId.intr_reg, GenId.intr_mask, dws]
  | act l =>
    simp only [layout, guarded_script]
    rcases checked_ok h with ⟨hc, rfl⟩ | ⟨hc, rfl⟩
    · rw [dws_eq_nil _ _ _ (chg_false.1 hc)]; simp [hc, hold, wIf, dws]
    · simp [hc, hold, DS.Intr.reg, DS.Intr.mask, dws, bne_comm]
  | tap l =>
    cases h
    simp [layout, guarded_script, hold, DS.Intr.reg, DS.Intr.mask, has_uni, ← clr_clr, dws, bne_comm]

/-- what the layouts of all builders have in common; `block` is the builder's block -/
structure Layout.WF (L : Layout) (block : List Nat) (pin : Bool) (sh rq : Regs) : Prop where
  sep : L.Sep
  enable : ∀ e ∈ L.Ts, e ∈ enableRegs
  body_block : ∀ a ∈ L.body, a ∈ block
  block_sub : ∀ a ∈ block, a ∈ L.body ∨ a ∈ L.Ts
  sub : ∀ e ∈ L.Ts, L.tmp e &&& ~~~sh e = 0#8
  fin : ∀ e ∈ L.Ts, L.fin e = if e ∈ block then rq e else sh e
  /-- a toggled register of the block is the wake-up builder's 0x2F, held with its axis bits 0xE0 off: what `P.wkupOwn` asks -/
  own : ∀ e ∈ L.Ts, e ∈ block → e = 0x2F ∧ (L.tmp e = sh e ∨ L.tmp e &&& 0xE0#8 = 0#8)
  ends : ∀ a ∈ L.B0 ++ L.B2, ∀ X ∈ DS.Intr.all, a ∉ X.params
  /-- a parameter of `X` is rewritten only with `X` off under the temporaries -/
  guard : ∀ X ∈ DS.Intr.all, ∀ a ∈ L.B1, a ∈ X.params → sh a ≠ rq a → X.reg ∈ L.Ts ∧ has (L.tmp X.reg) X.mask = false
  /-- nothing to change, nothing to switch off - except for pin mapping, which looks at what is mapped -/
  idle : pin = false → (∀ a ∈ block, sh a = rq a) → ∀ e ∈ L.Ts, L.tmp e = sh e

theorem hold_sub (X : DS.Intr) (go : Bool) (sh : Regs) (e : Nat) : hold X go sh e &&& ~~~sh e = 0#8 := by
  unfold hold
  rw [Regs.set_apply]
  split
  · rename_i h; subst h; split
    · exact clr_sub (sub_refl _)
    · exact sub_refl _
  · exact sub_refl _

theorem hold_off (X : DS.Intr) (sh rq : Regs) (G : List Nat) {a : Nat} (ha : a ∈ G) (hne : sh a ≠ rq a) :
    has (hold X (chg sh rq G) sh X.reg) X.mask = false := by
  have : chg sh rq G = true := (Bool.not_eq_false _).mp fun h => hne (chg_false.1 h a ha)
  simp only [hold, this, Bool.and_true, Regs.set_same]
  split
  · exact has_clr _ _
  · rename_i h; simpa using h

theorem hold_idle (X : DS.Intr) (sh rq : Regs) (G : List Nat) (h : ∀ a ∈ G, sh a = rq a) (e : Nat) :
    hold X (chg sh rq G) sh e = sh e := by
  simp [hold, chg_false.2 h, Regs.set_apply]
  intro h; rw [h]

theorem hold_reg (X : DS.Intr) (go : Bool) (sh : Regs) :
    hold X go sh X.reg = sh X.reg ∨ hold X go sh X.reg &&& X.mask = 0#8 := by
  unfold hold
  rw [Regs.set_same]
  split
  · exact .inr (by simpa [has] using has_clr (sh X.reg) X.mask)
  · exact .inl rfl

/-- the address facts `toggled_wf` needs; only the pin-mapping builder toggles registers -/
abbrev ToggledOK (Ts B block : List Nat) (pin : Bool) : Prop :=
  (Ts ++ B).Nodup ∧ (∀ e ∈ Ts, e ∈ enableRegs ∧ e ∉ block) ∧ (∀ a ∈ B, a ∈ block) ∧ (∀ a ∈ block, a ∈ B) ∧
  (∀ X ∈ DS.Intr.all, ∀ a ∈ B, a ∉ X.params) ∧ (pin = false → Ts = [])

theorem toggled_wf {Ts B block : List Nat} {pin : Bool} {tmp sh : Regs} (rq : Regs) (h : ToggledOK Ts B block pin)
    (hsub : ∀ e ∈ Ts, tmp e &&& ~~~sh e = 0#8) : (Layout.toggled Ts B tmp sh).WF block pin sh rq := by
  obtain ⟨nd, hT, h1, h2, h3, hp⟩ := h
  rw [List.nodup_append] at nd
  have hb : (Layout.toggled Ts B tmp sh).body = B := by simp [Layout.body, Layout.toggled]
  exact {
    sep := ⟨nd.1, hb.symm ▸ nd.2.1, fun a ha hm => nd.2.2 a ha a (hb ▸ hm) rfl⟩
    enable := fun e he => (hT e he).1
    body_block := hb.symm ▸ h1
    block_sub := fun a ha => .inl (hb.symm ▸ h2 a ha)
    sub := hsub
    fin := fun e he => (if_neg (hT e he).2).symm
    own := fun e he hm => absurd hm (hT e he).2
    ends := fun _ h => nomatch h
    guard := fun X hX a ha hp => absurd hp (h3 X hX a ha)
    idle := fun hpin _ e he => nomatch (hp hpin ▸ he : e ∈ []) }

/-- the address facts `guarded_wf` needs -/
abbrev GuardedOK (X : DS.Intr) (G : List Nat) (own : Bool) (B0 B1 B2 block : List Nat) : Prop :=
  (B0 ++ B1 ++ B2).Nodup ∧ X.reg ∉ B0 ++ B1 ++ B2 ∧ (∀ a ∈ B0 ++ B1 ++ B2, a ∈ block) ∧
  (∀ a ∈ block, a ∈ B0 ++ B1 ++ B2 ∨ a = X.reg) ∧ (X.reg ∈ block ↔ own = true) ∧ (own = true → X = .wkup) ∧
  (∀ a ∈ B0 ++ B2, ∀ Y ∈ DS.Intr.all, a ∉ Y.params) ∧ (∀ Y ∈ DS.Intr.all, ∀ a ∈ B1, a ∈ Y.params → Y = X) ∧
  (∀ a ∈ B1, a ∈ G) ∧ (∀ a ∈ G, a ∈ block)

theorem intr_reg_enable (X : DS.Intr) : X.reg ∈ enableRegs := by cases X <;> decide

theorem guarded_wf {X : DS.Intr} {G : List Nat} {own : Bool} {B0 B1 B2 block : List Nat} (sh rq : Regs)
    (h : GuardedOK X G own B0 B1 B2 block) : (Layout.guarded X G own B0 B1 B2 sh rq).WF block false sh rq := by
  obtain ⟨nd, hX, hb, hbl, hown, hwk, hends, hpar, hG, hGb⟩ := h
  refine ⟨⟨by simp [Layout.guarded], nd, by simpa [Layout.guarded, Layout.body] using hX⟩, ?_, hb, ?_, ?_, ?_, ?_, hends, ?_, ?_⟩ <;>
    simp only [Layout.guarded, List.mem_singleton, forall_eq]
  · exact intr_reg_enable X
  · simpa [Layout.body] using hbl
  · exact hold_sub _ _ _ _
  · by_cases ho : own = true <;> simp [ho, hown]
  · intro hb
    cases hwk (hown.1 hb)
    exact ⟨rfl, hold_reg .wkup _ sh⟩
  · intro Y hY a ha hp hne
    cases hpar Y hY a ha hp
    exact ⟨rfl, hold_off _ sh rq G (hG a ha) hne⟩
  · exact fun _ hs => hold_idle X sh rq G (fun a ha => hs a (hGb a ha)) _

theorem layout_wf (q : Request) (sh rq : Regs) : (layout sh rq q).WF q.block (isPin q) sh rq := by
  -- `decide` wants the block as a literal, without the setter list of `q`
  cases q with
  | acc l | int l | alp l | awk l =>
    dsimp only [Request.block, isPin]; exact toggled_wf rq (by decide) (fun _ h => nomatch h)
  | pin l =>
    dsimp only [Request.block, isPin]
    exact toggled_wf rq (by decide) fun e _ => pinTmp_sub sh rq e
  | gen g l => cases g <;> dsimp only [Request.block] <;> exact guarded_wf sh rq (by decide)
  | fifo l | wkup l | ori l | act l | tap l => dsimp only [Request.block]; exact guarded_wf sh rq (by decide)

/-- a write of an accepted request puts the requested value into a block register, or a
    sub-value of the recorded one (a temporary disable, or the restore) into an enable register -/
theorem script_mem (q : Request) (sh : Regs) (ws : List W) (h : q.script sh = .ok ws) {w : W} (hw : w ∈ ws) :
    (w.addr ∈ q.block ∧ w.val = q.target sh w.addr) ∨
    (w.addr ∈ enableRegs ∧ w.val &&& ~~~sh w.addr = 0#8) := by
  have wf := layout_wf q sh (q.target sh)
  rw [script_layout h] at hw
  rcases Layout.mem_script hw with ⟨hb, hv⟩ | ⟨hT, hv⟩
  · exact .inl ⟨wf.body_block _ hb, hv⟩
  · rcases hv with hv | hv
    · exact .inr ⟨wf.enable _ hT, hv ▸ wf.sub _ hT⟩
    · rw [wf.fin _ hT] at hv
      split at hv
      · rename_i hb; exact .inl ⟨hb, hv⟩
      · exact .inr ⟨wf.enable _ hT, hv ▸ sub_refl _⟩

theorem script_vals (q : Request) (sh : Regs) (ws : List W) (h : q.script sh = .ok ws) :
    ∀ w ∈ ws, w.val = q.target sh w.addr ∨ w.val &&& ~~~(sh w.addr) = 0#8 :=
  fun _ hw => (script_mem q sh ws h hw).imp And.right And.right

theorem script_addr_cfg (q : Request) (sh : Regs) (ws : List W) (h : q.script sh = .ok ws) :
    ∀ w ∈ ws, w.addr ∈ DS.cfgAddrs := by
  intro w hw
  rcases script_mem q sh ws h hw with h1 | h1
  · exact block_sub_cfg q _ h1.1
  · exact enable_sub_cfg _ h1.1

end Thm
end Bma400
