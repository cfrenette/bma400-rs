/- what a run means without a transport: `aexec` applies a list of bus actions to the device and
   the recorded configuration (a write is the chip's `write`, a read returns the chip's `burst`,
   acknowledged writes are recorded).  Under ANY schedule of data-operation failures, over either
   transport, device and record after the run of an action list are those of `aexec` of SOME
   prefix of that list, and chip-select is released (`exec_prefix`; in the proof the prefix is the
   actions before the first failed one, but the statement does not say which).  A fault-free run from an idle
   interface is `aexec` of the whole list (`exec_refines_idle`); `runOp_clean` / `runCtor_clean`
   say the same of an API call and a constructor, result included. -/
import Bma400.Lemmas.Spi
import Bma400.Lemmas.Step
import Bma400.Lemmas.Plan
namespace Bma400
namespace Thm
open P

def aexec : Chip → Regs → List Act → List (List Byte) → Chip × Regs × List (List Byte)
  | c, sh, [], reads => (c, sh, reads)
  | c, sh, .wr a v e :: rest, reads => aexec (c.write a v) (applyEff sh a v e) rest reads
  | c, sh, .rd a n :: rest, reads => aexec c sh rest (reads ++ [c.burst a n])
  | c, sh, .delay _ :: rest, reads => aexec c sh rest reads

theorem aexec_same (acts : List Act) : ∀ (c d : Chip) (sh : Regs) (reads : List (List Byte)),
    Chip.Same c d →
    Chip.Same (aexec c sh acts reads).1 (aexec d sh acts reads).1 ∧
    (aexec c sh acts reads).2 = (aexec d sh acts reads).2 := by
  induction acts with
  | nil => intro c d sh reads h; exact ⟨h, rfl⟩
  | cons act rest ih =>
    intro c d sh reads h
    cases act with
    | wr a v e => simp only [aexec]; exact ih _ _ _ _ (write_same h a v)
    | rd a n => simp only [aexec]; rw [burst_same h]; exact ih _ _ _ _ h
    | delay ms => simp only [aexec]; exact ih _ _ _ _ h

theorem aexec_cons (c : Chip) (sh : Regs) (act : Act) (rest : List Act) (reads : List (List Byte)) :
    aexec c sh (act :: rest) reads =
      aexec (aexec c sh [act] reads).1 (aexec c sh [act] reads).2.1 rest (aexec c sh [act] reads).2.2 := by
  cases act <;> rfl

theorem aexec_shadow (acts : List Act) : ∀ (c : Chip) (sh : Regs) (reads : List (List Byte)),
    (aexec c sh acts reads).2.1 = acts.foldl recordOf sh := by
  induction acts with
  | nil => intro c sh reads; rfl
  | cons act rest ih => intro c sh reads; cases act <;> exact ih _ _ _

/-- over SPI the interface is idle: chip-select high, the chip has left its power-on I2C mode -/
abbrev Idle (t : Transport) (c : Chip) : Prop := t = .spi → c.csHigh = true ∧ c.spiMode = true

/-- an acknowledged frame on an idle interface is the abstract step of its action -/
theorem frame_refines (t : Transport) (act : Act) (hwf : ActWf act) (c c0 : Chip) (sh : Regs) (reads : List (List Byte))
    (hi : Idle t c) (hs : Chip.Same c c0) :
    Chip.Same (chipAfter c (acked (frame t act))) (aexec c0 sh [act] reads).1 ∧
    Idle t (chipAfter c (acked (frame t act))) ∧
    recordOf sh act = (aexec c0 sh [act] reads).2.1 ∧
    reads ++ bytesOf t c act = (aexec c0 sh [act] reads).2.2 := by
  cases t with
  | i2c dev =>
    cases act with
    | wr a v e =>
      refine ⟨?_, fun h => (by cases h), rfl, by simp [bytesOf, aexec]⟩
      simpa [frame, acked, chipAfter, chipIf, Chip.raw, aexec, toNat_ofNat_lt hwf] using write_same hs a v
    | rd a n =>
      exact ⟨hs, hi, rfl, by simp [bytesOf, aexec, Chip.raw, toNat_ofNat_lt hwf, burst_same hs]⟩
    | delay ms => exact ⟨hs, hi, rfl, by simp [bytesOf, aexec]⟩
  | spi =>
    obtain ⟨hcs, hsm⟩ := hi rfl
    cases act with
    | wr a v e =>
      obtain ⟨s1, s2, s3, _⟩ := spi_write_window c a v hcs hwf
      exact ⟨s1.trans (write_same hs a v), fun _ => ⟨s2, s3⟩, rfl, by simp [bytesOf, aexec]⟩
    | rd a n =>
      obtain ⟨s0, s1, s2, s3, _⟩ := spi_read_window c a n hcs hsm hwf
      exact ⟨s1.trans hs, fun _ => ⟨s2, s3⟩, rfl, by simp [bytesOf, aexec, s0, burst_same hs]⟩
    | delay ms => exact ⟨hs, hi, rfl, by simp [bytesOf, aexec]⟩

/-- a frame cut by the failure of a data operation leaves the device as it was, the interface idle -/
theorem cut_chip {t : Transport} {act : Act} {i : Nat} {pin : Bool} {s : List JEntry} (hc : Cut t act i pin s)
    (hwf : ActWf act) (c : Chip) (hi : Idle t c) (hj : onlyDataFailures s = true) :
    Chip.Same (chipAfter c s) c ∧ Idle t (chipAfter c s) := by
  cases hc with
  | i2cWr | i2cRd => exact ⟨Chip.Same.refl _, hi⟩
  | low | wrHigh | rdHigh => simp [onlyDataFailures] at hj
  | wrData _ _ _ okh | rdHead _ _ okh =>
    obtain rfl : okh = true := by simpa [onlyDataFailures] using hj
    obtain ⟨g1, g2, g3⟩ := csHigh_props (c.raw .csLow).1
    exact ⟨g1.trans (csLow_same c (hi rfl).1), fun _ => ⟨g2, g3⟩⟩
  | rdData a n okh =>
    obtain rfl : okh = true := by simpa [onlyDataFailures] using hj
    obtain ⟨g1, g2, g3⟩ := csHigh_props ((c.raw .csLow).1.raw (.spiTransfer [BitVec.ofNat 8 a ||| 0x80#8, 0#8])).1
    exact ⟨g1.trans (read_header_same c a (hi rfl).1 hwf), fun _ => ⟨g2, g3⟩⟩

/-- the run `r` is the abstract run of the first `n` actions, from the device `c` -/
@[reducible] def IsPrefixRun (t : Transport) (r : List JEntry × World × Except Err (List (List Byte))) (c : Chip) (sh : Regs)
    (acts : List Act) (reads : List (List Byte)) (n : Nat) : Prop :=
  n ≤ acts.length ∧
  Chip.Same r.2.1.chip (aexec c sh (acts.take n) reads).1 ∧
  r.2.1.shadow = (aexec c sh (acts.take n) reads).2.1 ∧
  (t = .spi → r.2.1.chip.csHigh = true ∧ r.2.1.chip.spiMode = true) ∧
  (∀ out, r.2.2 = .ok out → n = acts.length ∧ out = (aexec c sh acts reads).2.2)

theorem exec_prefix (t : Transport) (fails : Nat → Bool) (acts : List Act) (hwf : ActsWf acts) :
    ∀ (w : World) (c : Chip) (reads : List (List Byte)), Chip.Same w.chip c →
      (t = .spi → w.chip.csHigh = true ∧ w.chip.spiMode = true) →
      onlyDataFailures (exec t fails w acts reads).1 = true →
      ∃ n, IsPrefixRun t (exec t fails w acts reads) c w.shadow acts reads n := by
  intro w c reads hs hi
  refine exec_ind t fails (motive := fun w acts reads r => ActsWf acts → ∀ c, Chip.Same w.chip c → Idle t w.chip →
    onlyDataFailures r.1 = true → ∃ n, IsPrefixRun t r c w.shadow acts reads n) ?_ ?_ ?_ acts w reads hwf c hs hi
  · intro w reads _ c hs hi _
    exact ⟨0, Nat.le_refl _, hs, rfl, hi, fun out h => ⟨rfl, by cases h; rfl⟩⟩
  · intro w act rest reads i pin s hc _ hwf c hs hi hj
    obtain ⟨s1, s2⟩ := cut_chip hc (List.forall_mem_cons.1 hwf).1 w.chip hi hj
    exact ⟨0, Nat.zero_le _, s1.trans hs, rfl, s2, fun out h => by cases h⟩
  · intro w act rest reads r ih hwf c hs hi hj
    obtain ⟨h1, h2⟩ := List.forall_mem_cons.1 hwf
    obtain ⟨f1, f2, f3, f4⟩ := frame_refines t act h1 w.chip c w.shadow reads hi hs
    rw [odf_acked] at hj
    obtain ⟨n, hn, p1, p2, p3, p4⟩ := ih h2 _ f1 f2 hj
    simp only [f3, f4] at p1 p2 p4
    refine ⟨n + 1, Nat.succ_le_succ hn, ?_, ?_, p3, ?_⟩
    · rw [List.take_succ_cons, aexec_cons]; exact p1
    · rw [List.take_succ_cons, aexec_cons]; exact p2
    · intro out ho
      rw [aexec_cons]
      exact ⟨congrArg (· + 1) (p4 out ho).1, (p4 out ho).2⟩

/-- what a fault-free run must produce, relative to `aexec` -/
def Refines (r : List JEntry × World × Except Err (List (List Byte))) (a : Chip × Regs × List (List Byte)) : Prop :=
  Chip.Same r.2.1.chip a.1 ∧ r.2.1.shadow = a.2.1 ∧
  (match r.2.2 with | .ok reads => reads = a.2.2 | .error _ => False)

theorem Refines.ok {r : List JEntry × World × Except Err (List (List Byte))} {a : Chip × Regs × List (List Byte)}
    (h : Refines r a) : r.2.2 = .ok a.2.2 := by
  obtain ⟨_, _, h⟩ := h
  cases hr : r.2.2 <;> rw [hr] at h
  · exact h.elim
  · rw [h]

theorem exec_refines_idle (t : Transport) (acts : List Act) (hwf : ActsWf acts) (w : World) (reads : List (List Byte))
    (hi : Idle t w.chip) :
    Refines (exec t noFaults w acts reads) (aexec w.chip w.shadow acts reads) ∧
    Idle t (exec t noFaults w acts reads).2.1.chip := by
  obtain ⟨hd, hok⟩ := exec_clean t acts w reads
  obtain ⟨n, _, p1, p2, p3, p4⟩ := exec_prefix t noFaults acts hwf w w.chip reads (Chip.Same.refl _) hi hd
  unfold Refines
  cases hr : (exec t noFaults w acts reads).2.2 with
  | error e => rw [hr] at hok; cases hok
  | ok out =>
    obtain ⟨rfl, rfl⟩ := p4 out hr
    rw [List.take_length] at p1 p2
    exact ⟨⟨p1, p2, rfl⟩, p3⟩

/-- over SPI a first read on a chip that has not yet seen a rising edge of chip-select (it answers in its
    power-on I2C mode) returns bytes `d` that mean nothing, and leaves the interface idle: the rest is the
    abstract run -/
theorem exec_spi_first (w : World) (hcs : w.chip.csHigh = true) {rest : List Act} (hwf : ActsWf rest)
    (reads : List (List Byte)) :
    ∃ d, Refines (exec .spi noFaults w (.rd 0 1 :: rest) reads) (aexec w.chip w.shadow rest (reads ++ [d])) ∧
      Idle .spi (exec .spi noFaults w (.rd 0 1 :: rest) reads).2.1.chip := by
  obtain ⟨s1, s2, s3⟩ := after_dummy w.chip hcs
  rw [exec_cons_clean]
  -- `chipAfter` of the frame, spelt out as the chain of raw operations `after_dummy` speaks of
  simp only [chipAfter, acked, frame, List.map, List.foldl, chipIf, ↓reduceIte, bytesOf, recordOf, opsOf]
  obtain ⟨h, hi⟩ := exec_refines_idle .spi rest hwf ⟨_, w.shadow, _⟩ (reads ++ [_]) (fun _ => ⟨s2, s3⟩)
  obtain ⟨a1, a2⟩ := aexec_same rest _ w.chip w.shadow (reads ++ [_]) s1
  refine ⟨_, ⟨h.1.trans a1, h.2.1.trans (congrArg (·.1) a2), ?_⟩, hi⟩
  rw [h.ok]
  exact congrArg (·.2) a2

/-- the call `r` of `op` from `w` did what the abstract run of `acts` does -/
structure CleanCall (t : Transport) (w : World) (op : Op) (acts : List Act) (r : List JEntry × World × Outcome) : Prop where
  decode : decode t r.1 = some (acts.map Act.acc)
  outcome : r.2.2 = finishOutcome (op.finish (aexec w.chip w.shadow acts []).2.1 (aexec w.chip w.shadow acts []).2.2)
  chip : Chip.Same r.2.1.chip (aexec w.chip w.shadow acts []).1
  shadow : r.2.1.shadow = (aexec w.chip w.shadow acts []).2.1
  idle : Idle t r.2.1.chip

theorem runOp_clean (t : Transport) (w : World) (hi : Idle t w.chip) (op : Op) (acts : List Act)
    (hplan : op.plan w.shadow = ⟨none, acts⟩) : CleanCall t w op acts (runOp t noFaults w op) := by
  refine runOp_cases (motive := CleanCall t w op acts) t noFaults w op (fun e he => by rw [hplan] at he; cases he)
    (fun _ r hr => ?_)
  have hwf := plan_wf w.shadow op
  rw [hplan] at hr hwf
  subst hr
  obtain ⟨h, h4⟩ := exec_refines_idle t acts hwf { w with idx := 0 } [] hi
  refine ⟨decode_exact t acts hwf _ _, ?_, h.1, h.2.1, h4⟩
  rw [h.ok, h.2.1]
  rfl

theorem runCtor_clean (dev : Nat) (chip : Chip) (c : Ctor) :
    onlyDataFailures (runCtor dev noFaults chip c).1 = true ∧
    decode (c.transport dev) (runCtor dev noFaults chip c).1 = some (c.acts.map Act.acc) ∧
    (runCtor dev noFaults chip c).2.1.shadow = shadowDefault := by
  refine runCtor_cases (motive := fun r => onlyDataFailures r.1 = true ∧ decode _ r.1 = _ ∧ r.2.1.shadow = _)
    dev noFaults chip c (fun r hr => ?_)
  subst hr
  obtain ⟨h1, h2⟩ := exec_clean (c.transport dev) c.acts ⟨chip, shadowDefault, 0⟩ []
  refine ⟨h1, decode_exact _ _ (ctor_wf c) _ _, ?_⟩
  rw [exec_ok_shadow _ _ _ _ _ h2]
  cases c <;> rfl

end Thm
end Bma400
