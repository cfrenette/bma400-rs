/- lists of register writes: what `dws` sends, the values a list writes to one address
   (`valuesAt`), the device effect (`applyWrites`: a register ends up holding the last value
   written to it), C07 over a concatenation -/
import Bma400.Lemmas.Bytes
namespace Bma400
namespace Thm
open P

theorem mem_dw {sh rq : Regs} {a : Nat} {w : W} (h : w ∈ dw sh rq a) :
    w.addr = a ∧ w.val = rq a ∧ sh a ≠ rq a := by
  unfold dw at h
  split at h
  · simp at h; subst h; simp_all
  · simp at h

theorem mem_dws {sh rq : Regs} {as : List Nat} {w : W} (h : w ∈ dws sh rq as) :
    w.addr ∈ as ∧ w.val = rq w.addr ∧ sh w.addr ≠ rq w.addr := by
  unfold dws at h
  rw [List.mem_flatMap] at h
  obtain ⟨a, ha, hw⟩ := h
  obtain ⟨h1, h2, h3⟩ := mem_dw hw
  subst h1
  exact ⟨ha, h2, h3⟩

theorem dw_wIf (cur tgt : Regs) (a : Nat) : dw cur tgt a = wIf (cur a != tgt a) a (tgt a) := by
  simp [dw, wIf]

theorem dws_append (cur tgt : Regs) (l1 l2 : List Nat) : dws cur tgt (l1 ++ l2) = dws cur tgt l1 ++ dws cur tgt l2 := by
  simp [dws]

theorem dw2 (sh rq : Regs) (a b : Nat) : dw sh rq a ++ dw sh rq b = dws sh rq [a, b] := by simp [dws]

theorem dws_eq_nil (cur tgt : Regs) (L : List Nat) (h : ∀ a ∈ L, cur a = tgt a) : dws cur tgt L = [] := by
  simp only [dws, List.flatMap_eq_nil_iff]
  intro a ha; simp [dw, h a ha]

theorem chg_false {sh rq : Regs} {as : List Nat} : chg sh rq as = false ↔ ∀ a ∈ as, sh a = rq a := by
  simp [chg]

theorem chg_true {sh rq : Regs} {as : List Nat} (h : chg sh rq as = true) : ∃ a ∈ as, sh a ≠ rq a := by
  unfold chg at h
  rw [List.any_eq_true] at h
  obtain ⟨a, ha, h⟩ := h
  exact ⟨a, ha, by simpa using h⟩

theorem valuesAt_cons (w : W) (ws : List W) (x : Nat) :
    valuesAt (w :: ws) x = if w.addr = x then w.val :: valuesAt ws x else valuesAt ws x := by
  by_cases h : w.addr = x <;> simp [valuesAt, h]

theorem valuesAt_append (w1 w2 : List W) (a : Nat) :
    valuesAt (w1 ++ w2) a = valuesAt w1 a ++ valuesAt w2 a := by
  simp [valuesAt]

theorem valuesAt_dws_notin {cur tgt : Regs} {L : List Nat} {a : Nat} (h : a ∉ L) : valuesAt (dws cur tgt L) a = [] := by
  simp only [valuesAt, List.map_eq_nil_iff, List.filter_eq_nil_iff, decide_eq_true_eq]
  exact fun w hw e => h (e ▸ (mem_dws hw).1)

theorem valuesAt_dws (cur tgt : Regs) (L : List Nat) (nd : L.Nodup) (a : Nat) :
    valuesAt (dws cur tgt L) a = if a ∈ L ∧ cur a ≠ tgt a then [tgt a] else [] := by
  induction L with
  | nil => simp [dws, valuesAt]
  | cons b bs ih =>
    have nd' := List.nodup_cons.1 nd
    rw [show dws cur tgt (b :: bs) = dw cur tgt b ++ dws cur tgt bs by simp [dws], valuesAt_append, ih nd'.2]
    by_cases hb : b = a
    · subst hb; by_cases hv : cur b = tgt b <;> simp [dw, valuesAt, hv, nd'.1]
    · by_cases hv : cur b = tgt b <;> simp [dw, valuesAt, hv, hb, Ne.symm hb]

theorem applyWrites_append (c : Regs) (w1 w2 : List W) :
    applyWrites c (w1 ++ w2) = applyWrites (applyWrites c w1) w2 := by
  induction w1 generalizing c with
  | nil => rfl
  | cons w ws ih => simp [applyWrites, ih]

theorem applyWrites_last (c : Regs) (ws : List W) (x : Nat) :
    applyWrites c ws x = ((valuesAt ws x).getLast?).getD (c x) := by
  induction ws generalizing c with
  | nil => rfl
  | cons w ws ih =>
    rw [applyWrites, ih, valuesAt_cons, Regs.set_apply]
    by_cases h : w.addr = x
    · simp [h, List.getLast?_cons]
    · simp [h, Ne.symm h]

/-- a register that the writes have changed holds a value one of them wrote -/
theorem applyWrites_mem (c : Regs) (ws : List W) (a : Nat) (h : applyWrites c ws a ≠ c a) :
    (⟨a, applyWrites c ws a⟩ : W) ∈ ws := by
  rw [applyWrites_last] at h ⊢
  cases hl : (valuesAt ws a).getLast? with
  | none => rw [hl] at h; exact absurd rfl h
  | some v =>
    have hv : v ∈ valuesAt ws a := List.mem_of_getLast? hl
    simp only [valuesAt, List.mem_map, List.mem_filter, decide_eq_true_eq] at hv
    obtain ⟨w, ⟨hw, rfl⟩, rfl⟩ := hv
    exact hw

theorem C07_append {c : Regs} {w1 w2 : List W} (h1 : C07 c w1) (h2 : C07 (applyWrites c w1) w2) :
    C07 c (w1 ++ w2) := by
  induction w1 generalizing c with
  | nil => simpa [applyWrites] using h2
  | cons w ws ih =>
    simp only [List.cons_append, C07] at h1 ⊢
    exact ⟨h1.1, ih h1.2 h2⟩

/-- no parameter register of any interrupt is among the three enable registers -/
theorem params_not_enable : ∀ x ∈ DS.Intr.all, ∀ a ∈ x.params, a ∉ enableRegs := by decide

theorem block_sub_cfg (q : Request) : ∀ a ∈ q.block, a ∈ DS.cfgAddrs := by
  cases q with
  | gen g l => cases g <;> simp only [Request.block] <;> decide
  | _ => simp only [Request.block] <;> decide

theorem enable_sub_cfg : ∀ a ∈ enableRegs, a ∈ DS.cfgAddrs := by decide

theorem cfg_range : ∀ a ∈ DS.cfgAddrs, 0x19 ≤ a ∧ a < 0x7C := by decide

end Thm
end Bma400
