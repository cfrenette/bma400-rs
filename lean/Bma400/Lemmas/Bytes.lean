/- bit algebra on bytes: clearing set bits (`clr`), testing bits (`has`) and the sub-value order
   `t &&& ~~~c = 0` ("`t` has no bit that `c` lacks") in which the builders' temporaries live -/
import Bma400.Props
namespace Bma400
namespace Thm
open P

theorem sub_refl (c : Byte) : c &&& ~~~c = 0#8 := by simp

theorem xor_self_sub (c : Byte) : (c ^^^ c) &&& ~~~c = 0#8 := by simp

theorem sub_eq_and {v c : Byte} (hs : v &&& ~~~c = 0#8) : v = v &&& c := by
  have h1 : v = v &&& (c ||| ~~~c) := by rw [BitVec.or_not_self, BitVec.and_allOnes]
  rwa [BitVec.and_or_distrib_left, hs, BitVec.or_zero] at h1

theorem sub_trans {t c m : Byte} (h1 : t &&& ~~~c = 0#8) (h2 : c &&& ~~~m = 0#8) : t &&& ~~~m = 0#8 := by
  rw [sub_eq_and h1, BitVec.and_assoc, h2]; simp

theorem sub_cases (c t : Byte) (h : t &&& ~~~c = 0#8) : t = c ∨ strictSub t c := by
  by_cases e : t = c
  · exact Or.inl e
  · exact Or.inr ⟨h, e⟩

theorem has_sub {v c m : Byte} (hs : v &&& ~~~c = 0#8) (h : has v m = true) : has c m = true := by
  unfold has at *
  simp at h ⊢
  intro hc
  apply h
  rw [sub_eq_and hs, BitVec.and_assoc, hc]; simp

theorem clr_sub {t c m : Byte} (h : t &&& ~~~c = 0#8) : clr t m &&& ~~~c = 0#8 := by
  unfold clr
  rw [show (t &&& ~~~m) &&& ~~~c = (t &&& ~~~c) &&& ~~~m by
    rw [BitVec.and_assoc, BitVec.and_comm (~~~m), ← BitVec.and_assoc], h]
  simp

theorem has_clr (c m : Byte) : has (clr c m) m = false := by
  unfold has clr; simp [BitVec.and_assoc]

theorem has_clr_ne (b m : Byte) (h : has b m = true) : clr b m ≠ b := by
  intro e
  rw [← e, has_clr] at h
  cases h

theorem clr_eq_of_not_has (c m : Byte) (h : has c m = false) : clr c m = c := by
  have h0 : c &&& m = 0#8 := by simpa [has] using h
  exact (sub_eq_and (c := ~~~m) (by rw [BitVec.not_not, h0])).symm

theorem clr_bne (c m : Byte) : (clr c m != c) = has c m := by
  cases h : has c m
  · simp [clr_eq_of_not_has c m h]
  · simp [has_clr_ne c m h]

theorem clr_clr (x a b : Byte) : clr (clr x a) b = clr x (uni a b) := by
  unfold clr uni; rw [BitVec.and_assoc, ← BitVec.not_or]

theorem has_uni (b m n : Byte) : has b (uni m n) = (has b m || has b n) := by
  rw [Bool.eq_iff_iff]
  simp only [has, uni, bne_iff_ne, ne_eq, Bool.or_eq_true, BitVec.and_or_distrib_left, BitVec.or_eq_zero_iff,
    Classical.not_and_iff_not_or_not]

end Thm
end Bma400
