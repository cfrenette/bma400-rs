/-
  C08 - config writes are minimal: unchanged registers are skipped, enables only toggled.

  `C08_script`: for EVERY builder, EVERY request and EVERY coherent state, the builder's
  write script satisfies `P.C08W`: a register of the builder's own block is written at most
  once, only with the requested value and only if the device does not already hold it;
  outside the block only the interrupt-enable registers 0x1F / 0x20 / 0x2F are written, and
  each of those is either left alone or first written with a strict sub-value of its
  original content (some enable bits cleared, none added) and last written with its
  original value.  The scripts contain no read (they are lists of writes), which is the
  `hasRead` clause of `P.C08`.
  `C08_idem`: re-applying the current configuration writes nothing at all, for every builder
  except pin mapping (which toggles the enable of every mapped interrupt that is on, whatever changes).
-/
import Bma400.Lemmas.Plan
import Bma400.Thm.C02
namespace Bma400
namespace Thm
open P

/-- axes switched off (`t`), then the request written -/
theorem wkupOwn_toggle {pre req t : Byte} (hs : t &&& ~~~pre = 0#8) (ht : t = pre ∨ t &&& 0xE0#8 = 0#8) :
    wkupOwn pre req ((if pre ≠ t then [t] else []) ++ (if t ≠ req then [req] else [])) := by
  by_cases h1 : pre = t
  · subst h1
    by_cases h2 : pre = req
    · simp [wkupOwn, h2]
    · simp [wkupOwn, h2, Ne.symm h2]
  · have hz := ht.resolve_left (Ne.symm h1)
    have hss : strictSub t pre := ⟨hs, Ne.symm h1⟩
    by_cases h2 : t = req
    · subst h2; simp [wkupOwn, h1, hss, hz]
    · simp [wkupOwn, h1, h2, hss, hz]

theorem C08_script (q : Request) (sh chip : Regs) (hco : Coherent sh chip) (ws : List W)
    (h : q.script sh = .ok ws) : C08W q.block (q.target sh) chip ws := by
  have wf := layout_wf q sh (q.target sh)
  have co : ∀ a ∈ DS.cfgAddrs, chip a = sh a := fun a ha => (hco a ha).symm
  have hws := script_layout h
  -- from here on the layout is any layout with these properties
  generalize layout sh (q.target sh) q = L at wf hws
  -- a block register outside `Ts` is written at most once
  have body : ∀ a ∈ q.block, a ∉ L.Ts →
      valuesAt ws a = [] ∨ (valuesAt ws a = [q.target sh a] ∧ chip a ≠ q.target sh a) := by
    intro a ha hT
    rw [hws, Layout.valuesAt_body wf.sep hT, co a (block_sub_cfg q a ha)]
    by_cases hv : sh a = q.target sh a <;> simp [hv, (wf.block_sub a ha).resolve_right hT]
  refine ⟨?_, ?_, ?_, ?_⟩
  · intro a ha
    by_cases hT : a ∈ L.Ts
    · exact .inl (wf.own a hT ha).1
    · exact .inr (body a ha hT)
  · intro h2F
    by_cases hT : 0x2F ∈ L.Ts
    · rw [hws, Layout.valuesAt_toggle wf.sep hT, wf.fin _ hT, if_pos h2F, co _ (by decide)]
      exact wkupOwn_toggle (wf.sub _ hT) (wf.own _ hT h2F).2
    · rcases body _ h2F hT with e | ⟨e, hne⟩
      · exact .inl e
      · exact .inr (.inl ⟨e, Ne.symm hne⟩)
  · intro w hw
    exact (script_mem q sh ws h hw).imp And.left And.left
  · intro a hae hb
    rw [hws, co a (enable_sub_cfg a hae)]
    by_cases hT : a ∈ L.Ts
    · rw [Layout.valuesAt_toggle wf.sep hT, wf.fin a hT, if_neg hb]
      by_cases hv : sh a = L.tmp a
      · simp [toggles, hv]
      · exact .inr ⟨by simp [hv, strictSub, wf.sub a hT, Ne.symm hv], by simp [hv, Ne.symm hv]⟩
    · rw [Layout.valuesAt_body wf.sep hT, if_neg (fun hB => hb (wf.body_block a hB.1))]
      exact .inl rfl

theorem C08W_congr {block : List Nat} {tgt tgt' pre : Regs} {ws : List W}
    (h : ∀ a ∈ block, tgt a = tgt' a) (hw : C08W block tgt pre ws) : C08W block tgt' pre ws := by
  obtain ⟨h1, h2, h3, h4⟩ := hw
  refine ⟨?_, ?_, h3, h4⟩
  · intro a ha
    rw [← h a ha]; exact h1 a ha
  · intro hb
    rw [← h _ hb]; exact h2 hb

/-- C08 against the datasheet-level target (`C08W`: the write clause of `P.C08`, which `judge` evaluates) -/
theorem C08_spec (q : Request) (sh chip : Regs) (hco : Coherent sh chip)
    (hdef : ∀ x ∈ DS.cfgAddrs, DefAt sh x) (ws : List W) (h : q.script sh = .ok ws) :
    C08W q.block (DS.Request.spec q chip) chip ws :=
  C08W_congr (fun a ha => (C02_target q sh chip hco hdef a (block_sub_cfg q a ha)).1) (C08_script q sh chip hco ws h)

/-- no reads: a builder's plan consists of writes only -/
theorem C08_no_read (q : Request) (sh : Regs) :
    ∀ act ∈ ((Op.config q).plan sh).acts, ∃ a v e, act = .wr a v e :=
  config_acts q sh fun _ _ _ _ => ⟨_, _, _, rfl⟩

/-- re-applying the configuration the device already holds (the builder's copy equals the
    recorded configuration on its block) writes nothing - for every builder except pin mapping -/
theorem C08_idem (q : Request) (sh : Regs) (hsame : ∀ a ∈ q.block, q.target sh a = sh a) (ws : List W)
    (h : q.script sh = .ok ws) (hpin : ∀ l, q ≠ .pin l) : ws = [] := by
  have wf := layout_wf q sh (q.target sh)
  have hp : isPin q = false := by cases q <;> first | rfl | exact absurd rfl (hpin _)
  have hs : ∀ a ∈ q.block, sh a = q.target sh a := fun a ha => (hsame a ha).symm
  rw [script_layout h]
  refine Layout.script_nil (fun a ha => hs a (wf.body_block a ha)) fun e he => ⟨wf.idle hp hs e he, ?_⟩
  rw [wf.fin e he]; split
  · rename_i hb; exact hsame e hb
  · rfl

/-- the same against the datasheet-level target and the DEVICE content, the third clause of
    `P.C08`: if the request asks for what the device already holds on the builder's block, the
    script is empty (every builder except pin mapping) -/
theorem C08_idem_spec (q : Request) (sh chip : Regs) (hco : Coherent sh chip)
    (hdef : ∀ x ∈ DS.cfgAddrs, DefAt sh x) (ws : List W) (h : q.script sh = .ok ws)
    (hpin : isPin q = false) (hsame : ∀ a ∈ q.block, DS.Request.spec q chip a = chip a) : ws = [] := by
  apply C08_idem q sh _ ws h
  · intro l e; subst e; simp [isPin] at hpin
  · intro a ha
    have hc := block_sub_cfg q a ha
    rw [(C02_target q sh chip hco hdef a hc).1, hsame a ha, hco a hc]

/-- non-vacuity: fifo watermark change with the watermark interrupt enabled -/
example : C08W [0x26, 0x27, 0x28, 0x29] (shadowDefault.set 0x27 5#8) (shadowDefault.set 0x1F 0x40#8)
    [⟨0x1F, 0x00#8⟩, ⟨0x27, 5#8⟩, ⟨0x1F, 0x40#8⟩] := by decide

end Thm
end Bma400
