/-
  C15 - bus and pin failures are reported faithfully and stop the operation at once.
  C20 - a failed SPI transfer still releases chip-select.

  Both are statements about the interpreter, proved for EVERY list of bus
  actions (hence every API operation and request), BOTH transports, EVERY fault
  schedule (any set of failing raw-operation indices, not only single faults)
  and every start state:

  `C15_exec`  if no raw operation failed the call does not return a bus/pin
              error; otherwise it returns exactly the first failure - `IOError`
              carrying the index of the failed data operation, or
              `ChipSelectPinError` carrying the index of the failed pin
              operation - and the only raw operation after it is, for a failed
              SPI data operation, the chip-select release.  Totality of `exec`
              (a Lean function) is "never a panic" for the interpreter part.
  `C20_exec`  over SPI, if only data operations fail (the pins work), the
              chip-select level derived from the journal is high when the call
              returns (that the simulated chip sees the same level is part of
              `exec_prefix`, Lemmas/Refine).
-/
import Bma400.Thm.C13
namespace Bma400
namespace Thm
open P

/-- C15 for a journal whose first fallible raw operation has index `k` -/
def C15At {α} (k : Nat) (j : List JEntry) (r : Except Err α) : Prop :=
  match firstFailure j k with
  | none => isOkR r = true
  | some (i, isPin) =>
    r = .error (if isPin then .pin i else .io i) ∧
    (if isPin then afterFailure j = []
     else afterFailure j = [] ∨ ∃ okh, afterFailure j = [⟨.csHigh, okh⟩])

/-- an acknowledged frame uses up its raw indices and is transparent to everything else -/
theorem ff_acked (t : Transport) (act : Act) (rest : List JEntry) (k : Nat) :
    firstFailure (acked (frame t act) ++ rest) k = firstFailure rest (k + opsOf t act) ∧
    afterFailure (acked (frame t act) ++ rest) = afterFailure rest := by
  cases t <;> cases act <;> simp [frame, acked, opsOf, firstFailure, afterFailure, Nat.add_assoc]

theorem C15_cut {α} {t : Transport} {act : Act} {i : Nat} {pin : Bool} {s : List JEntry} (hc : Cut t act i pin s) (k : Nat) :
    C15At (α := α) k s (.error (if pin then .pin (k + i) else .io (k + i))) := by
  cases hc <;> simp [C15At, firstFailure, afterFailure]

theorem C15_exec (t : Transport) (fails : Nat → Bool) (acts : List Act) (w : World) (reads : List (List Byte)) :
    C15At w.idx (exec t fails w acts reads).1 (exec t fails w acts reads).2.2 := by
  refine exec_ind t fails (motive := fun w _ _ r => C15At w.idx r.1 r.2.2) ?_ ?_ ?_ acts w reads
  · intro _ _; rfl
  · intro w act rest reads i pin s hc _
    exact C15_cut hc w.idx
  · intro w act rest reads r ih
    unfold C15At at ih ⊢
    rw [(ff_acked t act r.1 w.idx).1, (ff_acked t act r.1 w.idx).2]
    exact ih

/-- after a failed data operation the release follows; if it fails too, a pin operation failed -/
theorem C20_cut {act : Act} {i : Nat} {pin : Bool} {s : List JEntry} (hc : Cut .spi act i pin s) : C20 s := by
  cases hc with
  | low | wrHigh | rdHigh => simp [C20, onlyDataFailures]
  | wrData _ _ _ okh | rdHead _ _ okh | rdData _ _ okh => cases okh <;> simp [C20, csAfter, onlyDataFailures]

/-- C20: journal-derived chip-select level after the call, any start level -/
theorem C20_exec (fails : Nat → Bool) (acts : List Act) :
    ∀ (w : World) (reads : List (List Byte)), C20 (exec .spi fails w acts reads).1 := by
  refine exec_ind .spi fails (motive := fun _ _ _ r => C20 r.1) ?_ ?_ ?_ acts
  · intro _ _ _; rfl
  · intro w act rest reads i pin s hc _
    exact C20_cut hc
  · intro w act rest reads r ih
    unfold C20 at ih ⊢
    rw [odf_acked, (cs_acked act r.1).1]
    exact ih

theorem C15_of_At {j : List JEntry} {r : Except Err (List (List Byte))} {f : List (List Byte) → Option (Except Err String)}
    (h : C15At 0 j r) : C15 j (callOutcome f r) := by
  unfold C15At at h
  unfold C15
  split
  · trivial
  · rename_i i isPin hf
    rw [hf] at h
    rw [h.1]
    exact ⟨rfl, h.2⟩

theorem C15_runOp (t : Transport) (fails : Nat → Bool) (w : World) (op : Op) :
    C15 (runOp t fails w op).1 (runOp t fails w op).2.2 :=
  runOp_cases (motive := fun r => C15 r.1 r.2.2) t fails w op (fun _ _ => trivial)
    (fun _ _ h => h ▸ C15_of_At (C15_exec t fails _ { w with idx := 0 } []))

theorem C15_runCtor (dev : Nat) (fails : Nat → Bool) (chip : Chip) (c : Ctor) :
    C15 (runCtor dev fails chip c).1 (runCtor dev fails chip c).2.2 :=
  runCtor_cases (motive := fun r => C15 r.1 r.2.2) dev fails chip c
    (fun _ h => h ▸ C15_of_At (C15_exec _ fails _ { chip := chip, shadow := shadowDefault } []))

theorem C20_runOp (fails : Nat → Bool) (w : World) (op : Op) : C20 (runOp .spi fails w op).1 :=
  runOp_cases (motive := fun r => C20 r.1) _ fails w op (fun _ _ _ => rfl) (fun _ _ h => h ▸ C20_exec fails _ _ _)

/-- non-vacuity: a data fault inside a read; the journal ends with the release, the error is
    the injected one -/
def exampleRun := exec .spi (fun i => i == 5) { chip := Chip.powerOn (fun _ => 0x90#8) [] [] [], shadow := shadowDefault }
      [.wr 0x19 0x02#8 .commit, .rd 0x04 6, .wr 0x1A 0x09#8 .commit] []
example : (match exampleRun.2.2 with | .error (.io 5) => true | _ => false) = true ∧ csAfter true exampleRun.1 = true ∧
    afterFailure exampleRun.1 = [⟨.csHigh, true⟩] := by decide

end Thm
end Bma400
