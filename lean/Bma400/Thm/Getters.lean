/-
  Getters - C17 end to end: for EVERY register content, every getter, over either transport,
  the concrete fault-free call decodes to exactly one burst read of the datasheet address and
  length and returns the datasheet decoding - `P.C17`, the form `judge` evaluates on the crate.
-/
import Bma400.Lemmas.Refine
import Bma400.Thm.C17
namespace Bma400
namespace Thm
open P

/-- the getters read below the acceleration data or above it: the burst is the register content -/
theorem burst_regs (c : Chip) (a n : Nat) (h : a + n ≤ 4 ∨ (10 ≤ a ∧ a ≠ 0x14)) :
    c.burst a n = regBurst c.regs a n := by
  unfold Chip.burst regBurst
  have h14 : a ≠ 0x14 := by omega
  simp only [h14, if_false]
  apply List.map_congr_left
  intro i hi
  have hi' := List.mem_range.mp hi
  unfold Chip.dataAt
  have : ¬ (4 ≤ a + i ∧ a + i ≤ 9) := by omega
  simp [this]

/-- C17, concrete: any world whose SPI interface is idle (any register content, any recorded
    configuration - the getters do not depend on it) -/
theorem C17_run (t : Transport) (w : World) (hspi : t = .spi → w.chip.csHigh = true ∧ w.chip.spiMode = true)
    (op : Op) (a n : Nat) (e : Option (List Int)) (h : getterSpecI w.chip.regs op = some (a, n, e)) :
    let r := runOp t noFaults w op
    ∃ accs, decode t r.1 = some accs ∧ P.C17 w.chip.regs op accs r.2.2 := by
  intro r
  obtain ⟨hplan, haddr, hfin⟩ := getter_facts w.chip.regs w.shadow op a n e h
  obtain ⟨hdec, hout, -⟩ := runOp_clean t w hspi op _ hplan
  obtain ⟨v, hv, hve⟩ := C17_value w.chip.regs w.shadow op a n e h
  have hout : r.2.2 = .ok (fmtInts v) := by
    rw [hout]
    simp only [aexec, List.nil_append, burst_regs w.chip a n haddr, hfin, hv]; rfl
  refine ⟨_, hdec, ?_⟩
  unfold P.C17 getterSpec
  rw [h]
  refine ⟨rfl, by rw [hout]; rfl, ?_⟩
  intro s hs
  cases e with
  | none => simp at hs
  | some x => simp at hs; subst hs; rw [hout, hve x rfl]

end Thm
end Bma400
