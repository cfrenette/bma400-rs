/-
  C04 - FIFO byte streams decode to exactly the frames and values the sensor encoded.

  `Fifo.encode` (Fifo.lean) is the datasheet frame format: data frames `0x80 | res<<4 | z<<3
  | y<<2 | x<<1` followed by one (8-bit mode: bits 11:4) or two (12-bit mode: bits 3:0, then
  bits 11:4) bytes per enabled axis in x, y, z order; control frames `0x48` + one byte
  (bit 1 source change, bit 2 filter-1 bandwidth change, bit 3 ACC_CONFIG1 change); sensor
  time frames `0xA0` + three bytes little-endian; FIFO-empty marker `0x80 0x00`.
  `C04_frame`    for EVERY well-formed frame (every 12-bit sample value - `asm12` / `asm8` say
                 what `data_at_offset` makes of ANY payload bytes -, every non-empty axis subset,
                 both resolutions, all control flag combinations, every 24-bit time) and whatever
                 surrounds it in the buffer, all eight accessors return the encoded values
                 (`Fifo.view`: sign-extended 12-bit samples, 8-bit mode with the low four bits
                 zero, `None` for every field the frame does not carry);
  `C04_iterate`  for EVERY list of well-formed frames (any length - induction) followed by
                 nothing, the empty marker plus anything, or ANY strict prefix of a frame,
                 iteration yields exactly those frames, at their positions, in order, and then
                 stops - never a partial frame;
  `C04`          both, for `frames` = what `read_fifo_frames(..)` hands to a `for` loop.
-/
import Bma400.Thm.C05
import Bma400.Thm.C03
namespace Bma400
namespace Thm
open T Fifo

theorem nibbles (a b : Byte) : ((a &&& 0x0F#8) ||| (b <<< 4)).toNat = a.toNat % 16 + 16 * (b.toNat % 16) := by
  rw [BitVec.toNat_or, and0F, BitVec.toNat_shiftLeft, Nat.shiftLeft_eq,
    show b.toNat * 2 ^ 4 % 2 ^ 8 = (b.toNat % 16) <<< 4 by rw [Nat.shiftLeft_eq]; omega,
    Nat.or_comm, ← Nat.shiftLeft_add_eq_or_of_lt (by omega), Nat.shiftLeft_eq]
  omega

theorem shr4 (b : Byte) : (b >>> 4).toNat = b.toNat / 16 := by
  rw [BitVec.toNat_ushiftRight, Nat.shiftRight_eq_div_pow]

/-- 12-bit mode: low nibble in the first byte (its high nibble is ignored), upper eight bits in the second -/
theorem asm12 (a b : Byte) :
    i16le ((a &&& 0x0F#8) ||| (b <<< 4)) (if b >>> 4 >>> 3 == 0#8 then b >>> 4 else b >>> 4 ||| 0xF0#8)
      = DS.sext12 (a.toNat % 16 + 16 * b.toNat) := by
  rw [i16le_sx (by rw [shr4]; omega), nibbles, shr4]
  congr 1; omega

/-- 8-bit mode: the upper eight bits, low four bits zero - the 12-bit assembly with an empty first byte -/
theorem asm8 (a : Byte) :
    i16le (a <<< 4) (if a >>> 4 >>> 3 == 0#8 then a >>> 4 else a >>> 4 ||| 0xF0#8) = DS.sext12 (16 * a.toNat) := by
  simpa using asm12 0#8 a

theorem at_encode (pre post l : List Byte) (i : Nat) :
    Frame.at (pre ++ l ++ post) ⟨pre.length, pre.length + l.length⟩ i = l[i]? := by
  simp only [Frame.at, Nat.add_lt_add_iff_left]
  split
  · rw [List.append_assoc, List.getElem?_append_right (Nat.le_add_right ..), Nat.add_sub_cancel_left,
      List.getElem?_append_left ‹_›]
  · exact (List.getElem?_eq_none (by omega)).symm

theorem at_self (l : List Byte) (i : Nat) : Frame.at l ⟨0, l.length⟩ i = l[i]? := by
  simpa using at_encode [] [] l i

/-- the accessors only look at the frame through `Frame.at` -/
theorem view_in_buffer (pre post l : List Byte) :
    Frame.view (pre ++ l ++ post) ⟨pre.length, pre.length + l.length⟩ = Frame.view l ⟨0, l.length⟩ := by
  simp only [Frame.view, Frame.frameType, Frame.x, Frame.y, Frame.z, Frame.time, Frame.fifoSrcChg, Frame.filt1BwChg,
    Frame.acc1Chg, Frame.ctrlBit, Frame.dataAtOffset, at_encode, at_self]

theorem view_control (a b c : Bool) :
    Frame.view (encode (.control a b c)) ⟨0, (encode (.control a b c)).length⟩ = some (view (.control a b c)) := by
  revert a b c
  decide +kernel

theorem view_time (t : Nat) (ht : t < 2 ^ 24) :
    Frame.view (encode (.time t)) ⟨0, (encode (.time t)).length⟩ = some (view (.time t)) := by
  have hft : T.frameType (hdr 0xA0#8) = .time := by decide
  simp [encode, Frame.view, Frame.frameType, Frame.x, Frame.y, Frame.z, Frame.time, Frame.fifoSrcChg, Frame.filt1BwChg,
    Frame.acc1Chg, Frame.ctrlBit, Frame.at, hft, view, u24le, T.hasX, T.hasY, T.hasZ]
  omega

/-- a captured axis value fits 12 bits -/
def Fits (o : Option Int) : Prop := ∀ v ∈ o, -2048 ≤ v ∧ v ≤ 2047

/-- bytes per sample -/
def width (r : Bool) : Nat := if r then 2 else 1

theorem length_optSample (r : Bool) (o : Option Int) :
    (optSample r o).length = (if o.isSome then 1 else 0) * width r := by
  cases o <;> cases r <;> rfl

/-- the header byte of an encoded data frame says what was encoded (16 combinations) -/
theorem data_header : ∀ r ex ey ez : Bool,
    let h := hdr (BitVec.ofNat 8 (0x80 + bitIf r 0x10 + bitIf ex 0x02 + bitIf ey 0x04 + bitIf ez 0x08))
    T.frameType h = .data ∧ resolutionIs12bit h = r ∧ hasX h = ex ∧ hasY h = ey ∧ hasZ h = ez ∧
    ((ex || ey || ez) = true → (T.frameType h == .data && !hasData h) = false ∧
      numPayloadBytes h = ((if ex then 1 else 0) + (if ey then 1 else 0) + (if ez then 1 else 0)) * width r) := by
  decide +kernel

/-- the sample at offset `off` of a frame whose payload starts with `off` samples `p`: `asm12` / `asm8` on the
    bytes of the sample, up to list indexing -/
theorem dataAtOffset_sample {r : Bool} {v : Int} (hv : -2048 ≤ v ∧ v ≤ 2047) (hb : Byte) {p : List Byte} (q : List Byte)
    {off : Nat} (hp : off * width r = p.length) :
    Frame.dataAtOffset (hb :: (p ++ sample r v ++ q)) ⟨0, (hb :: (p ++ sample r v ++ q)).length⟩ off r
      = some (carried r v) := by
  simp only [Frame.dataAtOffset, at_self]
  cases r with
  | true =>
    have h := asm12 (BitVec.ofNat 8 (DS.twos12 v % 16)) (BitVec.ofNat 8 (DS.twos12 v / 16))
    rw [sext12_eq v hv (by simp only [BitVec.toNat_ofNat, DS.twos12]; omega)] at h
    rw [width, if_pos rfl] at hp
    simpa [sample, carried, hp] using h
  | false =>
    have h := asm8 (BitVec.ofNat 8 (DS.twos12 v / 16))
    rw [sext12_eq (v - v % 16) (by omega) (by simp only [BitVec.toNat_ofNat, DS.twos12]; omega)] at h
    rw [width, if_neg (by decide), Nat.mul_one] at hp
    simpa [sample, carried, hp] using h

/-- one axis of an encoded data frame: absent reads `None`, present reads the carried value -/
theorem axisAcc_encoded (has : Byte → Bool) (off : Byte → Nat) {r : Bool} {o : Option Int}
    (ho : Fits o) {hb : Byte} (p q : List Byte)
    (hft : T.frameType (hdr hb) = .data) (hr : resolutionIs12bit (hdr hb) = r) (hhas : has (hdr hb) = o.isSome)
    (hp : off (hdr hb) * width r = p.length) :
    axisAcc has off (hb :: (p ++ optSample r o ++ q)) ⟨0, (hb :: (p ++ optSample r o ++ q)).length⟩
      = some (o.map (carried r)) := by
  simp only [axisAcc, at_self, List.getElem?_cons_zero, Option.bind_some, hft, hr, hhas]
  cases o with
  | none => rfl
  | some v => rw [optSample, dataAtOffset_sample (ho v rfl) hb q hp]; rfl

theorem wf_data {r : Bool} {x y z : Option Int} (h : (FrameSpec.data r x y z).wf = true) :
    (x.isSome || y.isSome || z.isSome) = true ∧ ∀ o ∈ [x, y, z], Fits o := by
  simp only [FrameSpec.wf, Bool.and_eq_true, List.all_eq_true] at h
  refine ⟨h.1, fun o ho v hv => ?_⟩
  cases hv
  simpa using h.2 _ ho

theorem view_data (r : Bool) (x y z : Option Int) (hwf : (FrameSpec.data r x y z).wf = true) :
    Frame.view (encode (.data r x y z)) ⟨0, (encode (.data r x y z)).length⟩ = some (view (.data r x y z)) := by
  have hfit := (wf_data hwf).2
  obtain ⟨hft, hr, hX, hY, hZ, -⟩ := data_header r x.isSome y.isSome z.isSome
  rw [encode]
  -- from here on the header byte is any byte with these five properties
  generalize BitVec.ofNat 8 (0x80 + bitIf r 0x10 + bitIf x.isSome 0x02 + bitIf y.isSome 0x04 + bitIf z.isSome 0x08) = hb
    at hft hr hX hY hZ ⊢
  have ex := axisAcc_encoded hasX (fun _ => 0) (hfit x (by simp)) [] (optSample r y ++ optSample r z) hft hr hX
    (Nat.zero_mul _)
  have ey := axisAcc_encoded hasY offY (hfit y (by simp)) (optSample r x) (optSample r z) hft hr hY
    (by rw [length_optSample, offY, hX])
  have ez := axisAcc_encoded hasZ offZ (hfit z (by simp)) (optSample r x ++ optSample r y) [] hft hr hZ
    (by rw [List.length_append, length_optSample, length_optSample, offZ, hX, hY, Nat.add_mul])
  simp only [List.nil_append, List.append_nil, ← List.append_assoc] at ex ey ez
  have h0 := at_self (hb :: (optSample r x ++ optSample r y ++ optSample r z)) 0
  simp only [Frame.view, x_eq_axisAcc, y_eq_axisAcc, z_eq_axisAcc, ex, ey, ez, frameType_eq h0,
    time_eq_none h0 (by simp [hft]), Frame.fifoSrcChg, Frame.filt1BwChg, Frame.acc1Chg,
    ctrlBit_eq_none h0 (by simp [hft]), hft, Option.bind_eq_bind, Option.bind_some]
  rfl

/-- C04 for one frame: whatever surrounds it in the buffer -/
theorem C04_frame (f : FrameSpec) (hwf : f.wf = true) (pre post : List Byte) :
    Frame.view (pre ++ encode f ++ post) ⟨pre.length, pre.length + (encode f).length⟩ = some (view f) := by
  rw [view_in_buffer]
  cases f with
  | data r x y z => exact view_data r x y z hwf
  | control a b c => exact view_control a b c
  | time t => exact view_time t (by simpa [FrameSpec.wf] using hwf)

/-- header of an encoded frame: not the empty marker, payload length = encoded length - 1 -/
theorem encode_header (f : FrameSpec) (hwf : f.wf = true) :
    ∃ hb rest, encode f = hb :: rest ∧
      (T.frameType (hdr hb) == .data && !hasData (hdr hb)) = false ∧
      numPayloadBytes (hdr hb) + 1 = (encode f).length := by
  cases f with
  | control a b c => exact ⟨_, _, rfl, by decide, rfl⟩
  | time t => exact ⟨_, _, rfl, by decide, rfl⟩
  | data r x y z =>
    obtain ⟨hnm, hlen⟩ := (data_header r x.isSome y.isSome z.isSome).2.2.2.2.2 (wf_data hwf).1
    refine ⟨_, _, rfl, hnm, ?_⟩
    simp only [encode, List.length_cons, List.length_append, length_optSample, hlen, Nat.add_mul]

theorem next_at_frame (f : FrameSpec) (hwf : f.wf = true) (pre post : List Byte) :
    next (pre ++ encode f ++ post) ⟨pre.length⟩ =
      (some ⟨pre.length, pre.length + (encode f).length⟩, ⟨pre.length + (encode f).length⟩) := by
  obtain ⟨hb, rest, he, hnm, hlen⟩ := encode_header f hwf
  rw [next_eq _ _ hb (by simp [he]), hnm, if_neg (by simp), if_neg (by simp only [List.length_append]; omega),
    Nat.add_assoc, hlen]

/-- at the tail (nothing, the empty marker, or a frame cut off by the end) iteration stops -/
theorem next_at_tail (tl : Tail) (hwf : tl.wf = true) (pre : List Byte) :
    (next (pre ++ tl.bytes) ⟨pre.length⟩).1 = none := by
  cases tl with
  | none => rw [C05_none_after _ _ (by simp [Tail.bytes])]
  | marker rest => rw [Tail.bytes, next_eq _ _ 0x80#8 (by simp [emptyMarker]), if_pos (by decide)]
  | cut f k =>
    simp only [Tail.wf, Bool.and_eq_true, decide_eq_true_eq] at hwf
    obtain ⟨hb, rest, he, hnm, hlen⟩ := encode_header f hwf.1
    obtain ⟨k, rfl⟩ : ∃ j, k = j + 1 := ⟨k - 1, by omega⟩
    rw [Tail.bytes, next_eq _ _ hb (by simp [he]), hnm, if_neg (by simp),
      if_pos (by simp only [List.length_append, List.length_take]; omega)]

/-- the frames of an encoded stream, by position -/
def framesAt : Nat → List FrameSpec → List Frame
  | _, [] => []
  | off, f :: fs => ⟨off, off + (encode f).length⟩ :: framesAt (off + (encode f).length) fs

theorem iterate_none {buf : List Byte} {it : Iter} (fuel : Nat) (h : (next buf it).1 = none) :
    iterate buf it (fuel + 1) = [] := by
  rw [iterate]
  split
  · rfl
  · rename_i h'; rw [h'] at h; cases h

theorem iterate_some {buf : List Byte} {it it' : Iter} {f : Frame} (fuel : Nat) (h : next buf it = (some f, it')) :
    iterate buf it (fuel + 1) = f :: iterate buf it' fuel := by
  rw [iterate, h]

theorem encodeAll_cons (pre post : List Byte) (f : FrameSpec) (fs : List FrameSpec) :
    pre ++ encodeAll (f :: fs) ++ post = pre ++ encode f ++ (encodeAll fs ++ post) := by
  simp [encodeAll]

/-- C04: iterating the encoded stream yields exactly the encoded frames, in order, then stops -/
theorem C04_iterate (fs : List FrameSpec) (tl : Tail) (htl : tl.wf = true) :
    ∀ (pre : List Byte) (fuel : Nat), (∀ f ∈ fs, f.wf = true) → fuel ≥ fs.length + 1 →
      iterate (pre ++ encodeAll fs ++ tl.bytes) ⟨pre.length⟩ fuel = framesAt pre.length fs := by
  induction fs with
  | nil =>
    intro pre fuel _ hfuel
    cases fuel with
    | zero => cases hfuel
    | succ fuel => exact iterate_none fuel (by simpa [encodeAll] using next_at_tail tl htl pre)
  | cons f fs ih =>
    intro pre fuel hwf hfuel
    obtain ⟨hf, hfs⟩ := List.forall_mem_cons.mp hwf
    cases fuel with
    | zero => cases hfuel
    | succ fuel =>
      have := ih (pre ++ encode f) fuel hfs (Nat.le_of_succ_le_succ hfuel)
      rw [List.length_append, List.append_assoc _ _ tl.bytes] at this
      rw [encodeAll_cons, iterate_some fuel (next_at_frame f hf pre _), this, framesAt]

/-- ... and every one of them reads back as encoded -/
theorem C04_views (fs : List FrameSpec) (hwf : ∀ f ∈ fs, f.wf = true) :
    ∀ (pre post : List Byte),
      (framesAt pre.length fs).map (fun fr => fr.view (pre ++ encodeAll fs ++ post)) = fs.map (fun f => some (view f)) := by
  induction fs with
  | nil => intro pre post; rfl
  | cons f fs ih =>
    intro pre post
    obtain ⟨hf, hfs⟩ := List.forall_mem_cons.mp hwf
    have := ih hfs (pre ++ encode f) post
    rw [List.length_append, List.append_assoc _ _ post] at this
    rw [encodeAll_cons, framesAt, List.map_cons, List.map_cons, C04_frame f hf, this]

theorem length_le_encodeAll (fs : List FrameSpec) : fs.length ≤ (encodeAll fs).length := by
  induction fs with
  | nil => exact Nat.le_refl 0
  | cons f fs ih =>
    have : 1 ≤ (encode f).length := by cases f <;> exact Nat.succ_pos _
    simp only [encodeAll, List.flatMap_cons, List.length_append, List.length_cons] at ih ⊢
    omega

/-- C04 as the user sees it: `read_fifo_frames(buffer).collect()` on a buffer holding the
    encoded stream followed by a valid tail -/
theorem C04 (fs : List FrameSpec) (tl : Tail) (hwf : ∀ f ∈ fs, f.wf = true) (htl : tl.wf = true) :
    (frames (encodeAll fs ++ tl.bytes)).map (fun fr => fr.view (encodeAll fs ++ tl.bytes)) =
      fs.map (fun f => some (view f)) ∧
    (frames (encodeAll fs ++ tl.bytes)).length = fs.length := by
  have hit : iterate (encodeAll fs ++ tl.bytes) ⟨0⟩ _ = framesAt 0 fs :=
    C04_iterate fs tl htl [] ((encodeAll fs ++ tl.bytes).length + 1) hwf
      (by have := length_le_encodeAll fs; rw [List.length_append]; omega)
  -- the second conjunct follows from the first: both sides are maps
  refine (and_iff_left_of_imp fun hv => ?_).mpr ?_
  · simpa using congrArg List.length hv
  · rw [frames, hit]
    exact C04_views fs hwf [] tl.bytes

/-- non-vacuity: the stream of the crate's documentation example -/
example : (frames [0x48#8, 0x6E#8, 0x9E#8, 0x01#8, 0x80#8, 0x0F#8, 0xFF#8, 0x0F#8, 0x7F#8, 0xA0#8, 0xF8#8, 0xFF#8, 0xFF#8,
    0x80#8, 0x00#8]).length = 3 := by decide

end Thm
end Bma400
