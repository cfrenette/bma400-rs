/-
  C10 - self-test follows the datasheet procedure, judges correctly, restores the config.

  The self test is a fixed list of 21 bus actions computed from the configuration saved
  before it (`selfTestActs`, mirroring lib.rs / config.rs).  For EVERY coherent prior
  configuration and EVERY pair of sensor responses:
  `C10_setup` / `C10_state_at_excitation`  when the first non-zero value is written to
        SELF_TEST (0x7D) the device has INT_CONFIG0 = INT_CONFIG1 = 0 (all interrupts off),
        the auto-wake-up interrupt bit and the three FIFO axis bits clear, power mode normal
        and ACC_CONFIG1 = 0x78 (4g, OSR3, 100 Hz);
  `C10_order`   SELF_TEST receives exactly 0x07 (positive, all axes), 0x0F (negative), 0x00
        (off), in this order; each of the two data reads - one 6-byte burst at 0x04 each,
        and there are no other reads - happens while an excitation is applied and after at
        least 50 ms of DelayMs arguments since it was switched on;
  `C10_verdict` Ok exactly when positive - negative exceeds 1500 / 1200 / 250 on x / y / z
        (12-bit operands: no i16 overflow), otherwise SelfTestFailedError, nothing else;
  `C10_restore` in both cases every device register afterwards equals its value before, and
        so does the recorded configuration;
  `C10_abstract` all of it as `P.C10`, the predicate `judge` evaluates on the crate;
  `C10_i2c` / `C10_spi`  the run over either transport is that abstract run (refinement,
        Lemmas/Refine), journal included.
  Partial: "50 ms" is the sum of the arguments passed to DelayMs, not elapsed time.
-/
import Bma400.Lemmas.Refine
import Bma400.Thm.C03
namespace Bma400
namespace Thm
open P R

/-- registers after the six set-up writes -/
def stSetup (sh pre : Regs) : Regs :=
  (((((pre.set 0x1F 0x00#8).set 0x20 0x00#8).set 0x2D (flag (sh 0x2D) awk1_WKUP_INT false)).set 0x26
    (flag (flag (flag (sh 0x26) f0_X false) f0_Y false) f0_Z false)).set 0x19
    (acc0_with_power_mode (sh 0x19) .normal)).set 0x1A 0x78#8

theorem setup_bytes : ∀ b : Byte,
    flag b awk1_WKUP_INT false &&& 0x02#8 = 0#8 ∧
    flag (flag (flag b f0_X false) f0_Y false) f0_Z false &&& 0xE0#8 = 0#8 ∧
    acc0_with_power_mode b .normal &&& 0x03#8 = 0x02#8 := by decide +kernel

theorem C10_setup (sh pre : Regs) : selfTestSetup (stSetup sh pre) := by
  unfold selfTestSetup stSetup
  simp [Regs.set, (setup_bytes (sh 0x2D)).1, (setup_bytes (sh 0x26)).2.1, (setup_bytes (sh 0x19)).2.2]

theorem C10_state_at_excitation (sh pre : Regs) :
    stateAtExcitation pre ((selfTestActs sh).map Act.acc) = some (stSetup sh pre) := by
  simp [selfTestActs, Act.acc, stateAtExcitation, stSetup, trunc, selftest_trunc]

theorem C10_order (sh : Regs) :
    excitations ((selfTestActs sh).map Act.acc) = [0x07#8, 0x0F#8, 0x00#8] ∧
    settleOk ((selfTestActs sh).map Act.acc) none = true ∧
    ((selfTestActs sh).map Act.acc).filter (fun a => match a with | .rd _ _ _ => true | _ => false)
      = [.rd 0x04 6 true, .rd 0x04 6 true] := by
  refine ⟨?_, ?_, ?_⟩
  · simp [selfTestActs, Act.acc, excitations, okWrites, valuesAt, selftest_trunc, trunc]
  · simp [selfTestActs, Act.acc, settleOk, selftest_trunc, trunc, DS.ST_SETTLE_MS]
  · simp [selfTestActs, Act.acc]

/-- the registers the self test saves, rewrites and restores -/
def stAddrs : List Nat := [0x19, 0x1A, 0x1F, 0x20, 0x2D, 0x26]

theorem stAddrs_cfg : ∀ a ∈ stAddrs, a ∈ DS.cfgAddrs := by decide

/-- the abstract self test, run once, register by register: the six saved registers end with the
    saved value, SELF_TEST idle, nothing else is written; the recorded configuration is the saved one -/
theorem selfTest_final (chip : Chip) (sh : Regs) (a : Nat) :
    (aexec chip sh (selfTestActs sh) []).1.regs a
      = (if a ∈ stAddrs then sh a else if a = 0x7D then 0#8 else chip.regs a) ∧
    (aexec chip sh (selfTestActs sh) []).2.1 a = sh a := by
  have key : a = 0x26 ∨ a = 0x2D ∨ a = 0x20 ∨ a = 0x1F ∨ a = 0x1A ∨ a = 0x19 ∨ a = 0x7D ∨
      (a ≠ 0x26 ∧ a ≠ 0x2D ∧ a ≠ 0x20 ∧ a ≠ 0x1F ∧ a ≠ 0x1A ∧ a ≠ 0x19 ∧ a ≠ 0x7D) := by omega
  rcases key with rfl | rfl | rfl | rfl | rfl | rfl | rfl | ⟨n1, n2, n3, n4, n5, n6, n7⟩
  all_goals
    simp [selfTestActs, aexec, Chip.write, applyEff, Regs.set, stAddrs, *]

/-- without assuming that SELF_TEST was idle before (an earlier test may have been cut
    by a bus error with the excitation still applied): every OTHER register is restored and
    SELF_TEST is left idle -/
theorem C10_restore_any (chip : Chip) (sh : Regs) (hco : Coherent sh chip.regs) :
    (∀ a, a ≠ 0x7D → (aexec chip sh (selfTestActs sh) []).1.regs a = chip.regs a) ∧
    (aexec chip sh (selfTestActs sh) []).1.regs 0x7D = 0#8 := by
  constructor
  · intro a ha
    rw [(selfTest_final chip sh a).1, if_neg ha]
    split
    · exact hco a (stAddrs_cfg a ‹_›)
    · rfl
  · rw [(selfTest_final chip sh 0x7D).1]; rfl

theorem C10_restore (chip : Chip) (sh : Regs) (hco : Coherent sh chip.regs) (h7D : chip.regs 0x7D = 0#8) :
    (∀ a, (aexec chip sh (selfTestActs sh) []).1.regs a = chip.regs a) ∧
    (∀ a ∈ DS.cfgAddrs, (aexec chip sh (selfTestActs sh) []).2.1 a = sh a) := by
  refine ⟨fun a => ?_, fun a _ => (selfTest_final chip sh a).2⟩
  by_cases ha : a = 0x7D
  · rw [ha, (C10_restore_any chip sh hco).2, h7D]
  · exact (C10_restore_any chip sh hco).1 a ha

/-- the data the two reads return: the positive, then the negative excitation response -/
theorem C10_reads (chip : Chip) (sh : Regs) :
    (aexec chip sh (selfTestActs sh) []).2.2 =
      [(List.range 6).map (fun i => chip.pos.getD i 0#8), (List.range 6).map (fun i => chip.neg.getD i 0#8)] := by
  simp [selfTestActs, aexec, Chip.write, Chip.burst, Chip.dataAt, Regs.set, selftest_trunc, trunc, List.range, List.range.loop]

/-- the verdict: Ok exactly when the three differences exceed 1500 / 1200 / 250 (no i16
    overflow: both operands are 12-bit), otherwise SelfTestFailedError - never anything else -/
theorem C10_verdict (p n : List Byte) :
    let d (i : Nat) := accel12 (p.getD (2 * i) 0) (p.getD (2 * i + 1) 0) - accel12 (n.getD (2 * i) 0) (n.getD (2 * i + 1) 0)
    let o := finishOutcome (selfTestVerdict [(List.range 6).map (fun i => p.getD i 0#8), (List.range 6).map (fun i => n.getD i 0#8)])
    (o = .ok "" ↔ (d 0 > DS.ST_MIN_X ∧ d 1 > DS.ST_MIN_Y ∧ d 2 > DS.ST_MIN_Z)) ∧ (o = .ok "" ∨ o = .err .selfTest) := by
  simp only [selfTestVerdict, List.range, List.range.loop, List.map, fromBytesUnscaled_cons, List.getElem?_cons_zero,
    List.getElem?_cons_succ, Option.bind_eq_bind, Option.bind_some, DS.ST_MIN_X, DS.ST_MIN_Y, DS.ST_MIN_Z]
  split <;> simp_all [finishOutcome]

/-- C10, fault-free, in the form `P.C10` that `judge` evaluates - for every coherent prior
    configuration and every pair of sensor responses (SELF_TEST need not be idle before: `C10_restore_any`) -/
theorem C10_abstract (chip : Chip) (sh : Regs) (hco : Coherent sh chip.regs) :
    P.C10 chip.regs (aexec chip sh (selfTestActs sh) []).1.regs chip.pos chip.neg ((selfTestActs sh).map Act.acc)
      (finishOutcome (selfTestVerdict (aexec chip sh (selfTestActs sh) []).2.2)) := by
  obtain ⟨o1, o2, o3⟩ := C10_order sh
  refine ⟨⟨_, C10_state_at_excitation sh chip.regs, C10_setup sh chip.regs⟩, o1, o2, o3, ?_, ?_, ?_⟩
  · rw [C10_reads]; exact C10_verdict chip.pos chip.neg
  · intro a _ ha; exact (C10_restore_any chip sh hco).1 a ha
  · exact (C10_restore_any chip sh hco).2

/-- the self test over either transport, fault-free: the run refines the abstract one, so
    journal (C12_exact / C13_exact), verdict and restoration are the abstract ones -/
theorem C10_i2c (dev : Nat) (w : World) :
    let r := runOp (.i2c dev) noFaults w .selfTest
    decodeI2c dev r.1 = some ((selfTestActs w.shadow).map Act.acc) ∧
    r.2.2 = finishOutcome (selfTestVerdict (aexec w.chip w.shadow (selfTestActs w.shadow) []).2.2) ∧
    Chip.Same r.2.1.chip (aexec w.chip w.shadow (selfTestActs w.shadow) []).1 ∧
    r.2.1.shadow = (aexec w.chip w.shadow (selfTestActs w.shadow) []).2.1 :=
  have h := runOp_clean (.i2c dev) w (fun h => nomatch h) .selfTest _ rfl
  ⟨h.decode, h.outcome, h.chip, h.shadow⟩

theorem C10_spi (w : World) (hcs : w.chip.csHigh = true) (hsm : w.chip.spiMode = true) :
    let r := runOp .spi noFaults w .selfTest
    decodeSpi r.1 = some ((selfTestActs w.shadow).map Act.acc) ∧
    r.2.2 = finishOutcome (selfTestVerdict (aexec w.chip w.shadow (selfTestActs w.shadow) []).2.2) ∧
    Chip.Same r.2.1.chip (aexec w.chip w.shadow (selfTestActs w.shadow) []).1 ∧
    r.2.1.shadow = (aexec w.chip w.shadow (selfTestActs w.shadow) []).2.1 :=
  have h := runOp_clean .spi w (fun _ => ⟨hcs, hsm⟩) .selfTest _ rfl
  ⟨h.decode, h.outcome, h.chip, h.shadow⟩

/-- non-vacuity: +1600/+1300/+300 against 0 passes; +1500 on x does not -/
example :
    finishOutcome (selfTestVerdict [[0x40#8, 0x06#8, 0x14#8, 0x05#8, 0x2C#8, 0x01#8], [0, 0, 0, 0, 0, 0]]) = .ok "" ∧
    finishOutcome (selfTestVerdict [[0xDC#8, 0x05#8, 0x14#8, 0x05#8, 0x2C#8, 0x01#8], [0, 0, 0, 0, 0, 0]]) = .err .selfTest := by
  decide

end Thm
end Bma400
