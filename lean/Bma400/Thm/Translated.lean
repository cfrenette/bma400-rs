/-
  Translated - the summary of the translation ties T3 + T4: the PLAN of every operation of the
  model (`Op.plan`: guard, register-level accesses in order, effect of each acknowledged write on
  the recorded configuration) is, for every operation and every recorded configuration, the plan
  assembled from what tools/gen_builders.py reads out of the current source:

    * a configuration request `q`: the translated `write()` of its builder applied to the recorded
      configuration and to the builder's copy after its setters (`q.target sh`: the bool / enum
      setters are translated too, Thm/SettersT; the numeric ones are tied by differential execution
      only), rejected requests having no bus traffic;
    * everything else: the translated function of src/lib.rs.

  Every property theorem about calls (`runOp`, `exec`, `reach`, `C14_program`, ...) consumes
  operations only through `Op.plan` and `Op.finish`; with Thm/Frames (the transports) the whole
  path  API call -> plan -> framing -> raw HAL operations  of the model is regenerated from the
  source and re-proved on every run.
-/
import Bma400.Thm.Builders
import Bma400.Thm.Plans
import Bma400.Thm.C06
import Bma400.Thm.C07
import Bma400.Thm.C08
namespace Bma400
namespace Thm
open P Generated

/-- the translated `write()` of the builder of request `q` -/
def bldOf : Request → Regs → Regs → Except CfgErr (List W)
  | .acc _ => Bld.acc | .int _ => Bld.int | .pin _ => Bld.pin | .fifo _ => Bld.fifo
  | .alp _ => Bld.alp | .awk _ => Bld.awk | .wkup _ => Bld.wkup | .ori _ => Bld.ori
  | .gen .g1 _ => Bld.gen1 | .gen .g2 _ => Bld.gen2 | .act _ => Bld.act | .tap _ => Bld.tap

/-- the plan of every operation, assembled from the translated source -/
def planT (sh : Regs) : Op → Plan
  | .getId => Api.get_id sh
  | .getCmdError => Api.get_cmd_error sh
  | .getStatus => Api.get_status sh
  | .getUnscaled => Api.get_unscaled_data sh
  | .getData => Api.get_data sh
  | .getSensorClock => Api.get_sensor_clock sh
  | .getResetStatus => Api.get_reset_status sh
  | .getIntStatus0 => Api.get_int_status0 sh
  | .getIntStatus1 => Api.get_int_status1 sh
  | .getIntStatus2 => Api.get_int_status2 sh
  | .getFifoLen => Api.get_fifo_len sh
  | .readFifo n => Api.read_fifo_frames sh n
  | .flushFifo => Api.flush_fifo sh
  | .getStepCount => Api.get_step_count sh
  | .clearStepCount => Api.clear_step_count sh
  | .getStepActivity => Api.get_step_activity sh
  | .getRawTemp => Api.get_raw_temp sh
  | .getTempCelsius => Api.get_temp_celsius sh
  | .config q =>
      match bldOf q sh (q.target sh) with
      | .error e => ⟨some (.cfg e), []⟩
      | .ok ws => ⟨none, ws.map W.act⟩
  | .selfTest => Api.perform_self_test sh
  | .softReset => Api.soft_reset sh

theorem bldOf_script (q : Request) (sh : Regs) : bldOf q sh (q.target sh) = q.script sh := by
  rw [bld_script]; cases q <;> rfl

/-- **the model's plan layer is the translation of the source** -/
theorem plan_translated (sh : Regs) (op : Op) : Op.plan sh op = planT sh op := by
  cases op with
  | config q => simp only [Op.plan, planT, bldOf_script]; rfl
  | readFifo n => exact (api_fifo sh n).1
  | selfTest => exact api_selftest sh
  | softReset => exact api_reset sh
  -- the other seventeen are conjuncts of `api_getters` and `api_fifo`
  | _ => simp only [planT, api_getters sh, api_fifo sh 0]

/-- non-vacuity: a concrete request whose translated plan has bus traffic - the activity-change
    threshold changed while the interrupt is enabled (disable, write, restore) -/
example :
    (planT ((shadowDefault.set 0x20 0x10#8).set 0x56 0x10#8) (.config (.act [.threshold 9#8]))).acts.length = 3 := by
  decide

/-! ## The builder properties, stated about the TRANSLATED `write()` itself

`bldOf q` is what tools/gen_builders.py reads out of the source of the builder of request `q`;
`q.target sh` is the builder's copy after its setters.  From any state in which the recorded
configuration equals the device: -/

/-- C01: an accepted request leaves exactly the requested block on the device, everything else as it was -/
theorem C01_translated (q : Request) (sh chip : Regs) (hco : Coherent sh chip) (ws : List W)
    (h : bldOf q sh (q.target sh) = .ok ws) :
    ∀ x, applyWrites chip ws x = if x ∈ q.block then q.target sh x else chip x :=
  C01_effect q sh chip hco ws (bldOf_script q sh ▸ h)

/-- C07: every write of a parameter register happens while its interrupt is disabled on the device -/
theorem C07_translated (q : Request) (sh chip : Regs) (hco : Coherent sh chip) (ws : List W)
    (h : bldOf q sh (q.target sh) = .ok ws) : C07 chip ws :=
  C07_script q sh chip hco ws (bldOf_script q sh ▸ h)

/-- C08: minimal writes - own block at most once and only where the device differs, enables only toggled -/
theorem C08_translated (q : Request) (sh chip : Regs) (hco : Coherent sh chip) (ws : List W)
    (h : bldOf q sh (q.target sh) = .ok ws) : C08W q.block (q.target sh) chip ws :=
  C08_script q sh chip hco ws (bldOf_script q sh ▸ h)

/-- C06: the translated write() rejects exactly the requests whose ideal post-state violates the
    ODR / interrupt invariant, with the matching error -/
theorem C06_translated (q : Request) (sh chip : Regs) (hco : Coherent sh chip)
    (hdef : ∀ x ∈ DS.cfgAddrs, DefAt sh x) (hinv : Inv6 chip) :
    Verdict q chip (outcomeOf (bldOf q sh (q.target sh))) := by
  rw [bldOf_script]; exact C06_iff q sh chip hco hdef hinv

end Thm
end Bma400
