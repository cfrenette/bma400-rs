/-
  C02 - each builder setter encodes per the datasheet and touches only its own field.
  C09 - numeric settings saturate as documented and reassemble across split registers
        (the numeric setters below; the arithmetic of the saturations is in Thm/C09).

  For EVERY setter of every builder, EVERY argument value and EVERY prior content of
  the registers without reserved bits, the builder's copy after the setter equals the
  datasheet-level description `DS.xxxFields` (field, code) applied to the prior content:
  exactly the bits of the setter's field change, to the datasheet code; every other bit
  of that register and every other register is as before (`Field.put` is pointwise).

  The idea: `Field.put f c` is `upd r f.addr (f.ins c)`, where `f.ins c` inserts code `c`
  into a byte.  A setter is `upd r a g` (or `r.set a v`), so it meets its specification as
  soon as `g` inserts the codes of its fields into the byte (`puts_upd`; for one field
  `g b = f.ins c b`, `puts_enc`).  That byte fact is `flag_ins` for every bool setter, one
  `Enc` lemma per enum encoder of registers.rs (by the shape the Rust is written in, not by
  running through the 256 contents), and arithmetic for numeric arguments (`puts_step`).
  `xxx_spec` theorems, then `C02_target`: the same for whole requests (any list of
  setters), together with: no setter ever sets a reserved bit (its second conjunct).

  Unsupported sources: the register-level encoders are partial (`unreachable!()` =
  `none`); `fifoSrc?_isSome` etc. (Builders.lean) show the public setters never reach
  those arms, and the `src` cases below show the documented substitute is encoded.
-/
import Bma400.Lemmas.Enum
import Bma400.Lemmas.Field
namespace Bma400
namespace Thm
open R DS DS.F

theorem puts_cons (r : Regs) (f : Field) (c : Nat) (rest : List (Field × Nat)) (x : Nat) :
    puts r ((f, c) :: rest) x = puts (f.put c r) rest x := rfl
theorem puts_nil (r : Regs) (x : Nat) : puts r [] x = r x := rfl
theorem puts_append (r : Regs) (l1 l2 : List (Field × Nat)) : puts r (l1 ++ l2) = puts (puts r l1) l2 := by
  induction l1 generalizing r with
  | nil => rfl
  | cons p ps ih => exact ih _

/-- no reserved bit of register `x` is set -/
def DefAt (r : Regs) (x : Nat) : Prop := r x &&& ~~~definedMask x = 0#8

theorem upd_upd (r : Regs) (a : Nat) (g h : Byte → Byte) : upd (upd r a g) a h = upd r a (fun b => h (g b)) := by
  funext x; unfold upd; split <;> rfl

/-- the fields of `l` inserted into byte `b`, one after the other -/
def insAll (l : List (Field × Nat)) (b : Byte) : Byte := l.foldl (fun b p => p.1.ins p.2 b) b

/-- The one way a setter of one register meets its specification: its fields all lie in register
    `a`, and the byte function it applies there inserts their codes.  (Specification on the left
    in this and the following lemmas, so that `exact` reads the fields off the goal.) -/
theorem puts_upd {l : List (Field × Nat)} {a : Nat} {g : Byte → Byte} (h : ∀ b, g b = insAll l b) (r : Regs)
    (ha : (l.all fun p => p.1.addr == a) = true := by rfl) : puts r l = upd r a g := by
  rw [show g = insAll l from funext h]; clear h
  induction l generalizing r with
  | nil => funext x; unfold upd; split <;> rfl
  | cons p l ih =>
    simp only [List.all_cons, Bool.and_eq_true, beq_iff_eq] at ha
    exact (ih _ ha.2).trans (ha.1 ▸ upd_upd r _ (p.1.ins p.2) (insAll l))

theorem puts_upd₁ {g : Byte → Byte} {f : Field} {c : Nat} (h : ∀ b, g b = f.ins c b) (r : Regs) :
    puts r [(f, c)] = upd r f.addr g := puts_upd h r (by simp)

/-- the mask is the one bit at the field's shift -/
abbrev _root_.Bma400.DS.Field.Bit (f : Field) : Prop := f.ins 1 0#8 = f.mask

theorem flag_ins (f : Field) (en : Bool) (b : Byte) (hf : f.Bit := by rfl) :
    flag b f.mask en = f.ins (b2n en) b := by
  cases en
  · exact ins_zero f b
  · exact ins_ones f 1 b hf

theorem puts_flag (f : Field) {en : Bool} {r : Regs} (hf : f.Bit := by rfl) :
    puts r [(f, b2n en)] = upd r f.addr (flag · f.mask en) := puts_upd₁ (flag_ins f en · hf) r

/-- the `with_axes(x, y, z)` setters: three bits of one register -/
theorem puts_axes (fx fy fz : Field) {x y z : Bool} {r : Regs}
    (hxy : fy.addr = fx.addr := by rfl) (hxz : fz.addr = fx.addr := by rfl)
    (hx : fx.Bit := by rfl) (hy : fy.Bit := by rfl) (hz : fz.Bit := by rfl) :
    puts r (axes3 fx fy fz x y z) = upd r fx.addr (fun b => flag (flag (flag b fx.mask x) fy.mask y) fz.mask z) :=
  puts_upd (fun b => by rw [flag_ins fx x b hx, flag_ins fy y _ hy, flag_ins fz z _ hz]; rfl) r
    (by simp [axes3, hxy, hxz])

theorem pins_b2n (p : IntPins) : pinInt1 p = b2n (matchMapped p).1 ∧ pinInt2 p = b2n (matchMapped p).2 := by
  cases p <;> exact ⟨rfl, rfl⟩

/-- an interrupt mapped through INT1_MAP / INT2_MAP: the same bit of two registers -/
theorem puts_map12 {m : Byte} {s : Nat} {p : IntPins} {r : Regs} (hm : Field.Bit ⟨0, m, s⟩ := by rfl) :
    puts r (map12Fields (fun a => ⟨a, m, s⟩) p) = map12 r m p := by
  unfold map12Fields; rw [(pins_b2n p).1, (pins_b2n p).2]
  exact (congrArg (puts · _) (puts_flag ⟨0x21, m, s⟩ hm)).trans (puts_flag ⟨0x22, m, s⟩ hm)

/-- an interrupt mapped through INT12_MAP: two bits of one register -/
theorem puts_map3 {f1 f2 : Field} {p : IntPins} {r : Regs} (h23 : f1.addr = 0x23 := by rfl) (ha : f2.addr = f1.addr := by rfl)
    (h1 : f1.Bit := by rfl) (h2 : f2.Bit := by rfl) :
    puts r [(f1, pinInt1 p), (f2, pinInt2 p)] = map3 r f1.mask f2.mask p := by
  rw [(pins_b2n p).1, (pins_b2n p).2]
  show _ = upd r 0x23 fun b => flag (flag b f1.mask (matchMapped p).1) f2.mask (matchMapped p).2
  exact puts_upd (fun b => by rw [flag_ins f1 _ b h1, flag_ins f2 _ _ h2]; rfl) r (by simp [ha, h23])

theorem puts_enc {α : Type} {e : Byte → α → Byte} {f : Field} {code : α → Nat} (h : Enc e f code) {v : α} {r : Regs}
    {x : Nat} : puts r [(f, code v)] x = upd r f.addr (e · v) x := congrFun (puts_upd₁ (h · v) r) x

/-! one encoder for two fields: all 256 contents evaluated -/
theorem ins_int1_cfg : ∀ (b : Byte) c, io_with_int1_cfg b c = insAll [(int1_od, pinOd c), (int1_lvl, pinLvl c)] b := by
  decide +kernel
theorem ins_int2_cfg : ∀ (b : Byte) c, io_with_int2_cfg b c = insAll [(int2_od, pinOd c), (int2_lvl, pinLvl c)] b := by
  decide +kernel

theorem acc_spec (σ : AccSetter) (r : Regs) (x : Nat) : σ.apply r x = puts r (accFields σ) x := by
  symm
  cases σ with
  | powerMode => exact puts_enc ins_power_mode
  | osrLp => exact puts_enc ins_osr_lp
  | filt1Bw => exact puts_enc ins_filt1_bw
  | odr => exact puts_enc ins_odr
  | osr => exact puts_enc ins_osr
  | scale => exact puts_enc ins_scale
  | regDtaSrc => exact puts_enc ins_dta_reg_src

theorem int_spec (σ : IntSetter) (r : Regs) (x : Nat) : σ.apply r x = puts r (intFields σ) x := by
  symm; cases σ <;> exact congrFun (puts_flag _) x

theorem pin_spec (σ : PinSetter) (r : Regs) (x : Nat) : σ.apply r x = puts r (pinFields σ) x := by
  refine congrFun (Eq.symm ?_) x
  cases σ with
  | actch => exact puts_map3
  | tap => exact puts_map3
  | step => exact puts_map3
  | int1Cfg c => exact puts_upd (ins_int1_cfg · c) r
  | int2Cfg c => exact puts_upd (ins_int2_cfg · c) r
  | _ => exact puts_map12

theorem tap_spec (σ : TapSetter) (r : Regs) (x : Nat) : σ.apply r x = puts r (tapFields σ) x := by
  symm
  cases σ with
  | axis => exact puts_enc ins_tap_axis
  | sensitivity => exact puts_enc ins_tap_sens
  | minDur => exact puts_enc ins_min_tap
  | dtapDur => exact puts_enc ins_dtap
  | maxDur => exact puts_enc ins_max_tap

/-! ### numeric arguments: arithmetic instead of enumeration

  A numeric setter writes one to six registers, most of them outright (`Regs.set`).  Looked at in
  one register `x` it is followed step by step (`puts_step`, `puts_set`): at each step only the
  byte fact "the written byte is the field inserted into the content" is owed, and only if `x` is
  that step's register. -/

theorem puts_pointwise (fs : List (Field × Nat)) : ∀ {r r' : Regs} (x : Nat), r x = r' x → puts r fs x = puts r' fs x := by
  induction fs with
  | nil => intro r r' x h; exact h
  | cons p ps ih => intro r r' x h; exact ih x (by simp only [Field.put, h])

theorem puts_step {f : Field} {c : Nat} {g : Byte → Byte} {l : List (Field × Nat)} (r : Regs) (x : Nat)
    (h : x = f.addr → f.ins c (r x) = g (r x)) : puts r ((f, c) :: l) x = puts (upd r f.addr g) l x := by
  refine puts_pointwise l x ?_
  rw [Field.put_eq_upd]; unfold upd; split
  · exact h ‹_›
  · rfl

theorem puts_set {f : Field} {c : Nat} {v : Byte} {l : List (Field × Nat)} (r : Regs) (x : Nat)
    (h : x = f.addr → f.ins c (r x) = v) : puts r ((f, c) :: l) x = puts (r.set f.addr v) l x :=
  puts_step (g := fun _ => v) r x h

theorem and_ff (t : Byte) : t &&& 0xFF#8 = t := BitVec.and_allOnes
theorem ofNat8_congr {a b : Nat} (h : a % 256 = b % 256) : BitVec.ofNat 8 a = BitVec.ofNat 8 b :=
  BitVec.eq_of_toNat_eq h

theorem ins_whole (a n : Nat) (b : Byte) : Field.ins ⟨a, 0xFF#8, 0⟩ n b = BitVec.ofNat 8 n := by
  simp [Field.ins, and_ff]

/-- a register written outright with the byte of the code -/
theorem puts_whole {a n : Nat} {v : Byte} {l : List (Field × Nat)} (r : Regs) (x : Nat) (h : BitVec.ofNat 8 n = v) :
    puts r ((⟨a, 0xFF#8, 0⟩, n) :: l) x = puts (r.set a (trunc 0xFF#8 v)) l x :=
  puts_set r x fun _ => by rw [ins_whole, h]; exact (and_ff v).symm

/-- a byte argument written verbatim -/
theorem puts_verbatim {a : Nat} {t : Byte} {r : Regs} {x : Nat} :
    puts r [(⟨a, 0xFF#8, 0⟩, t.toNat)] x = r.set a (trunc 0xFF#8 t) x := puts_whole r x (by simp)

/-- a value written to a whole register whose other bits are reserved (and clear) -/
theorem low_field (m b v : Byte) (h : b &&& ~~~m = 0#8) : trunc m v = b &&& ~~~m ||| (v <<< 0 &&& m) := by
  rw [h]; simp [trunc]

theorem lsb_merge : ∀ b v : Byte, v &&& 0x0F#8 = 0#8 → uni (clr b 0xF0#8) v = b &&& ~~~0xF0#8 ||| v := by
  intro b v _; rfl

/-- watermark: min(v, 1024), low 8 bits to 0x27, bits 10:8 to 0x28 -/
theorem fifo_spec_wm (v : Nat) (r : Regs) (x : Nat) (hd : DefAt r x) :
    (FifoSetter.watermark v).apply r x = puts r (fifoFields (.watermark v)) x := by
  have ht : satWatermark v = clampU16 v 1024 ∧ clampU16 v 1024 ≤ 1024 := ⟨rfl, Nat.min_le_right _ _⟩
  symm
  refine (puts_whole r x (ofNat8_congr (by omega))).trans ((puts_set _ x fun hx => ?_).trans rfl)
  have hb : r x &&& ~~~0x07#8 = 0#8 := by subst hx; exact hd
  rw [Regs.set_other _ _ _ _ (by subst hx; decide)]
  exact (low_field 0x07#8 (r x) _ hb).symm.trans (congrArg (trunc 0x07#8) (ofNat8_congr (by omega)))

theorem shl2_lt8 : ∀ k, k < 8 → BitVec.ofNat 8 k <<< 2 &&& 0x1C#8 = BitVec.ofNat 8 k <<< 2 := by decide
theorem ins_num_samples (b : Byte) (k : Nat) (hk : k < 8) :
    wk0_with_num_samples b (BitVec.ofNat 8 k) = wkup_num_of_samples.ins k b := by
  show uni (clr b 0x1C#8) (_ &&& 0xFF#8) = b &&& ~~~0x1C#8 ||| (_ &&& 0x1C#8)
  rw [and_ff, shl2_lt8 k hk]; rfl

theorem nibble_hi : ∀ k, k < 16 → BitVec.ofNat 8 (k * 16) = BitVec.ofNat 8 k <<< 4 &&& 0xF0#8 := by decide +kernel

/-- 12-bit timeouts: bits 11:4 to the first register, bits 3:0 to the high nibble of the second
    (`all`: the defined bits of the second register, which `from_bits_truncate` keeps) -/
theorem ins_timeout_lsb {a t : Nat} {b : Byte} (all : Byte) (hall : 0xF0#8 &&& all = 0xF0#8) :
    Field.ins ⟨a, 0xF0#8, 4⟩ (t % 16) b = uni (clr b 0xF0#8) (trunc all (u16lo (t * 16))) := by
  have h : u16lo (t * 16) = BitVec.ofNat 8 (t % 16) <<< 4 &&& 0xF0#8 := by
    rw [← nibble_hi (t % 16) (by omega)]; exact ofNat8_congr (by omega)
  rw [h, trunc, BitVec.and_assoc, hall]; rfl

theorem timeout_msb_byte (v : Nat) : BitVec.ofNat 8 (sat12 v / 16) = u16lo (clampU16 v 4095 % 65536 / 16) :=
  ofNat8_congr (by unfold sat12 clampU16; omega)

theorem alp_spec_timeout (v : Nat) (r : Regs) (x : Nat) :
    (AlpSetter.timeout v).apply r x = puts r (alpFields (.timeout v)) x := by
  symm
  exact (puts_whole r x (timeout_msb_byte v)).trans ((puts_step _ x fun _ => ins_timeout_lsb 0xFF#8 rfl).trans rfl)

theorem awk_spec_period (v : Nat) (r : Regs) (x : Nat) :
    (AwkSetter.period v).apply r x = puts r (awkFields (.period v)) x := by
  symm
  exact (puts_whole r x (timeout_msb_byte v)).trans ((puts_step _ x fun _ => ins_timeout_lsb 0xF6#8 rfl).trans rfl)

/-! 12-bit reference: two's complement, low byte to the LSB register `a`, bits 11:8 to the low nibble
    of the MSB register `a + 1`, whose high nibble is reserved; true of every `c`, clamped or not -/

theorem ofNat_and0F (a : Nat) : BitVec.ofNat 8 a &&& 0x0F#8 = BitVec.ofNat 8 (a % 16) := by
  apply BitVec.eq_of_toNat_eq
  simp [BitVec.toNat_ofNat]
  have : (15 : Nat) = 2 ^ 4 - 1 := rfl
  rw [this, Nat.and_two_pow_sub_one_eq_mod]; omega

theorem twos12_eq (c : Int) : twos12 c = (c % 65536).toNat % 4096 := by unfold twos12; omega

theorem ins_ref_msb (a : Nat) (b : Byte) (c : Int) (hb : b &&& ~~~0x0F#8 = 0#8) :
    (ref_msb a).ins (twos12 c / 256) b = ref_msb_i16 c := by
  show b &&& ~~~0x0F#8 ||| (BitVec.ofNat 8 (twos12 c / 256) <<< 0 &&& 0x0F#8) = trunc 0x0F#8 (i16hi c)
  rw [hb, twos12_eq, i16hi, trunc, BitVec.shiftLeft_zero, BitVec.zero_or, ofNat_and0F, ofNat_and0F]
  apply ofNat8_congr; omega

theorem ref_lsb_byte (c : Int) : BitVec.ofNat 8 (twos12 c % 256) = i16lo c :=
  ofNat8_congr (by rw [twos12_eq]; omega)

theorem puts_ref12 (a : Nat) (v : Int) (l : List (Field × Nat)) (r : Regs) (x : Nat)
    (hd : x = a + 1 → r x &&& ~~~0x0F#8 = 0#8) :
    puts r (ref12 a v ++ l) x
      = puts ((r.set a (ref_lsb_i16 (clampRef v))).set (a + 1) (ref_msb_i16 (clampRef v))) l x :=
  (puts_whole r x (ref_lsb_byte _)).trans (puts_set _ x fun hx => ins_ref_msb a _ _ (by
    rw [Regs.set_other _ _ _ _ (by subst hx; exact Nat.succ_ne_self a)]; exact hd hx))

/-- the six reference registers at `a .. a+5` -/
theorem setRef12_spec (a : Nat) (x' y' z' : Int) (r : Regs) (x : Nat)
    (hd : DefAt r x)
    (hm : definedMask (a + 1) = 0x0F#8 ∧ definedMask (a + 3) = 0x0F#8 ∧ definedMask (a + 5) = 0x0F#8 := by decide) :
    setRef12 r a x' y' z' x = puts r (ref12 a x' ++ ref12 (a + 2) y' ++ ref12 (a + 4) z') x := by
  -- the reserved bits of an MSB register are clear in `r`, and the earlier steps have not touched it
  have msb {k : Nat} (hk : definedMask (a + k) = 0x0F#8) (r' : Regs) (hr : x = a + k → r' x = r x) (hx : x = a + k) :
      r' x &&& ~~~0x0F#8 = 0#8 := by
    rw [hr hx, ← hk, ← hx]; exact hd
  rw [List.append_assoc]
  symm
  exact (puts_ref12 a x' _ r x (msb hm.1 r fun _ => rfl)).trans
    ((puts_ref12 (a + 2) y' _ _ x (msb hm.2.1 _ fun hx => by simp [Regs.set, hx])).trans
      ((puts_ref12 (a + 4) z' [] _ x (msb hm.2.2 _ fun hx => by simp [Regs.set, hx])).trans rfl))

theorem fifo_spec (σ : FifoSetter) (r : Regs) (x : Nat) (hd : DefAt r x) : σ.apply r x = puts r (fifoFields σ) x := by
  symm
  cases σ with
  | watermark v => exact (fifo_spec_wm v r x hd).symm
  | axes => exact congrFun (puts_axes _ _ _) x
  | src => exact puts_enc ins_fifo_src
  | _ => exact congrFun (puts_flag _) x

theorem alp_spec (σ : AlpSetter) (r : Regs) (x : Nat) : σ.apply r x = puts r (alpFields σ) x := by
  symm
  cases σ with
  | timeout v => exact (alp_spec_timeout v r x).symm
  | trigger => exact puts_enc ins_alp_mode
  | _ => exact congrFun (puts_flag _) x

theorem awk_spec (σ : AwkSetter) (r : Regs) (x : Nat) : σ.apply r x = puts r (awkFields σ) x := by
  symm
  cases σ with
  | period v => exact (awk_spec_period v r x).symm
  | _ => exact congrFun (puts_flag _) x

theorem act_spec (σ : ActSetter) (r : Regs) (x : Nat) : σ.apply r x = puts r (actFields σ) x := by
  symm
  cases σ with
  | threshold => exact puts_verbatim
  | axes => exact congrFun (puts_axes _ _ _) x
  | src => exact puts_enc ins_act_src
  | obsPeriod => exact puts_enc ins_obs_period

theorem wkup_spec (σ : WkupSetter) (r : Regs) (x : Nat) : σ.apply r x = puts r (wkupFields σ) x := by
  symm
  cases σ with
  | refMode => exact puts_enc ins_wkup_refu
  | axes => exact congrFun (puts_axes wkup_x_en wkup_y_en wkup_z_en) x
  | numSamples n =>
    exact congrFun (puts_upd₁ (fun b => ins_num_samples b (satNumSamples n.toNat) (by unfold satNumSamples; omega)) r) x
  | threshold => exact puts_verbatim
  | refAccel a b c =>
    exact (puts_whole r x rfl).trans ((puts_whole _ x rfl).trans ((puts_whole _ x rfl).trans rfl))

theorem ori_spec (σ : OriSetter) (r : Regs) (x : Nat) (hd : DefAt r x) : σ.apply r x = puts r (oriFields σ) x := by
  symm
  cases σ with
  | axes => exact congrFun (puts_axes orient_x_en orient_y_en orient_z_en) x
  | src => exact puts_enc ins_ori_src
  | refMode => exact puts_enc ins_ori_refu
  | threshold => exact puts_verbatim
  | duration => exact puts_verbatim
  | refAccel a b c => exact (setRef12_spec 0x39 a b c r x hd).symm

theorem gen_spec (g : GenId) (σ : GenSetter) (r : Regs) (x : Nat) (hd : DefAt r x) :
    σ.apply g r x = puts r (genFields g σ) x := by
  symm
  -- with `g` fixed, `g.base` of the model and `genBase g` of the datasheet are the same numeral
  cases g <;> cases σ with
  | axes => exact congrFun (puts_axes (gen_x_en _) (gen_y_en _) (gen_z_en _)) x
  | src => exact puts_enc (ins_gen_src _)
  | refMode => exact puts_enc (ins_gen_refu _)
  | hysteresis => exact puts_enc (ins_gen_hyst _)
  | criterion => exact puts_enc (ins_gen_criterion _)
  | logic => exact puts_enc (ins_gen_comb _)
  | threshold => exact puts_verbatim
  | duration d =>
    exact (puts_whole r x (ofNat8_congr (b := d % 65536 / 256) (by omega))).trans
      ((puts_whole _ x (ofNat8_congr (b := d % 65536) (by omega))).trans rfl)
  | refAccel a b c => exact (setRef12_spec _ a b c r x hd).symm

/-- a field inside the defined bits keeps the register free of reserved bits -/
theorem put_defAt (f : Field) (c : Nat) (r : Regs) (x : Nat)
    (hm : f.mask &&& ~~~definedMask f.addr = 0#8) (hd : DefAt r x) : DefAt (f.put c r) x := by
  unfold DefAt at *
  simp only [Field.put]
  split
  · rename_i hx; subst hx
    rw [BitVec.and_or_distrib_right, BitVec.and_assoc, BitVec.and_comm (~~~f.mask), ← BitVec.and_assoc, hd,
      BitVec.and_assoc _ f.mask, hm]; simp
  · exact hd

def FieldOk (p : Field × Nat) : Prop := p.1.mask &&& ~~~definedMask p.1.addr = 0#8
instance (p : Field × Nat) : Decidable (FieldOk p) := by unfold FieldOk; infer_instance

theorem puts_defAt {fs : List (Field × Nat)} (hok : ∀ p ∈ fs, FieldOk p) :
    ∀ (r : Regs) (x : Nat), DefAt r x → DefAt (puts r fs) x := by
  induction fs with
  | nil => intro r x h; exact h
  | cons p ps ih =>
    intro r x h
    exact ih (fun q hq => hok q (.tail _ hq)) _ _ (put_defAt p.1 p.2 r x (hok p (.head _)) h)

/-- the folding argument shared by all builders, one register `x` at a time -/
theorem fold_spec_at {σT : Type} {apply : Regs → σT → Regs} {fields : σT → List (Field × Nat)} {x : Nat}
    (hspec : ∀ (σ : σT) (r : Regs), DefAt r x → apply r σ x = puts r (fields σ) x)
    (hok : ∀ σ, ∀ p ∈ fields σ, FieldOk p) {l : List σT} :
    ∀ (r pre : Regs), r x = pre x → DefAt r x →
      l.foldl apply r x = puts pre (l.flatMap fields) x ∧ DefAt (l.foldl apply r) x := by
  have tr {r r' : Regs} (h : r x = r' x) (hd : DefAt r x) : DefAt r' x := by unfold DefAt at *; rwa [← h]
  induction l with
  | nil => intro r pre h hd; exact ⟨h, hd⟩
  | cons σ l ih =>
    intro r pre h hd
    simp only [List.foldl_cons, List.flatMap_cons, puts_append]
    have e := (hspec σ r hd).trans (puts_pointwise _ _ h)
    exact ih _ _ e (tr e.symm (puts_defAt (hok σ) _ _ (tr h hd)))

theorem ok_nil : ∀ p ∈ ([] : List (Field × Nat)), FieldOk p := fun _ h => nomatch h
theorem ok_cons {f : Field} {c : Nat} {l : List (Field × Nat)} (h : f.mask &&& ~~~definedMask f.addr = 0#8)
    (hl : ∀ p ∈ l, FieldOk p) : ∀ p ∈ (f, c) :: l, FieldOk p := List.forall_mem_cons.mpr ⟨h, hl⟩

/-- every field a builder's setters write lies within the defined bits of its register: checked
    setter by setter, field by field down the setter's list (the codes play no part) -/
macro "fields_ok" : tactic =>
  `(tactic| (intro σ; cases σ <;> repeat (first | exact ok_nil | refine ok_cons (by decide +kernel) ?_)))

theorem C02_target_at (q : Request) (x : Nat) : ∀ sh pre : Regs, sh x = pre x → DefAt sh x →
    q.target sh x = DS.Request.spec q pre x ∧ DefAt (q.target sh) x := by
  cases q with
  | acc => exact fold_spec_at (fun σ r _ => acc_spec σ r x) (by fields_ok)
  | int => exact fold_spec_at (fun σ r _ => int_spec σ r x) (by fields_ok)
  | pin => exact fold_spec_at (fun σ r _ => pin_spec σ r x) (by fields_ok)
  | fifo => exact fold_spec_at (fun σ r => fifo_spec σ r x) (by fields_ok)
  | alp => exact fold_spec_at (fun σ r _ => alp_spec σ r x) (by fields_ok)
  | awk => exact fold_spec_at (fun σ r _ => awk_spec σ r x) (by fields_ok)
  | wkup => exact fold_spec_at (fun σ r _ => wkup_spec σ r x) (by fields_ok)
  | ori => exact fold_spec_at (fun σ r => ori_spec σ r x) (by fields_ok)
  | gen g => exact fold_spec_at (fun σ r => gen_spec g σ r x) (by cases g <;> fields_ok)
  | act => exact fold_spec_at (fun σ r _ => act_spec σ r x) (by fields_ok)
  | tap => exact fold_spec_at (fun σ r _ => tap_spec σ r x) (by fields_ok)

/-- C02 for whole requests: from any configuration without reserved bits, the builder's copy
    after ANY list of setters is the datasheet-level target, on every configuration register,
    and has no reserved bit set -/
theorem C02_target (q : Request) (sh pre : Regs) (hagree : ∀ x ∈ cfgAddrs, sh x = pre x)
    (hdef : ∀ x ∈ cfgAddrs, DefAt sh x) :
    ∀ x ∈ cfgAddrs, q.target sh x = DS.Request.spec q pre x ∧ DefAt (q.target sh) x :=
  fun x hx => C02_target_at q x sh pre (hagree x hx) (hdef x hx)

/-- the unsupported sources select the documented substitute and never reach `unreachable!()` -/
theorem C02_substitutes (b : Byte) :
    fifoSrc b .filt2Lp = fifoSrc b .filt2 ∧ genSrc b .filt2Lp = genSrc b .filt2 ∧
    actSrc b .filt2Lp = actSrc b .filt2 ∧ oriSrc b .filt1 = oriSrc b .filt2 ∧
    (∀ s, (fifoSrc? b s).isSome ∧ (genSrc? b s).isSome ∧ (actSrc? b s).isSome ∧ (oriSrc? b s).isSome) :=
  ⟨rfl, rfl, rfl, rfl, fun s => ⟨fifoSrc?_isSome b s, genSrc?_isSome b s, actSrc?_isSome b s, oriSrc?_isSome b s⟩⟩

end Thm
end Bma400
