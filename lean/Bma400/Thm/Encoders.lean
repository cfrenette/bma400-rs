/-
  Encoders - the register encoders of src/registers.rs, TRANSLATED from the source on every run
  (tools/gen_encoders.py -> Bma400/GeneratedEnc.lean, by symbolic evaluation of the bitflags
  expressions with the masks of the same file), are the model's encoders (Regs.lean) - which
  Thm/C02.lean proves equal to the datasheet field semantics.

  * 31 enum encoders: for ALL 256 register contents and every variant (Rust declaration order;
    the Lean constructor list next to each theorem is that order), model = translated
    `(self &&& keep) ||| set`, and `unreachable!()` arms are exactly the model's `none`.
    Where the model encoder is known to write one datasheet field (`Enc`, Lemmas/Field), the
    translated arm is compared with that field write on the contents 0x00 and 0xFF, which fix a
    function of this form (`agrees_of_enc`); the partial and the two-field encoders are run
    through all contents;
  * 61 bool encoders: translated (keep, set) pairs are `union MASK` / `difference MASK` for the
    model's mask constant;
  * 38 numeric encoders: translated (argument type, body pattern, field mask, all-bits mask) is
    the expected one, the all-bits mask being the datasheet's defined mask of that register;
    the model's numeric encoders are those patterns (`sem*`, the reading of six Rust token
    patterns, is the trusted part).
  * 37 decoders (`fn(&self) -> bool | Enum`): the 32 `intersects(MASK)` tests use the model's mask
    constants; `scale()`, `odr()` and the three `src()` agree with the model on all 256 contents.
  The chain  source =(translator)= GeneratedEnc =(this file, kernel)= Regs.lean =(Thm/C02)=
  Datasheet.lean  ties C02 / C09's encoding layer to /repo's current text, not only to sampled
  runs; the builders above it are tied by Thm/SettersT (setters) and Thm/Builders (`write()`).

  A trap: tools/gen_builders.py (`load_maps`) takes its table of names (Rust method -> model function,
  mask constant) from the TEXT of this file by regular expression: the statements `enc_X_with_y :
  agrees (α := T) [..] (fun b v => [some] (R.f b v)) Enc.X_with_y`, the conjuncts `isFlag R.m
  Enc.X_with_y` of `enc_flags`, the two lists of `dec_flags` and the lines of `dec_enums`.  A statement
  laid out differently is silently not read.
-/
import Bma400.GeneratedEnc
import Bma400.Lemmas.Field
namespace Bma400
namespace Thm
open R Generated

def applyKS (b : Byte) (ks : Nat × Nat) : Byte := (b &&& BitVec.ofNat 8 ks.1) ||| BitVec.ofNat 8 ks.2

/-- model encoder `f` (none = the API never passes that variant) agrees with the translated arms
    on all 256 register contents and all variants `vs` (Rust declaration order) -/
def agrees {α : Type} (vs : List α) (f : Byte → α → Option Byte) (arms : List (Option (Nat × Nat))) : Bool :=
  vs.length == arms.length &&
  (List.range 256).all fun n =>
    (vs.zip arms).all fun p => f (BitVec.ofNat 8 n) p.1 == p.2.map (applyKS (BitVec.ofNat 8 n))

/-- translated bool setter = union / difference of the mask `m`, as functions on all 256
    register contents (not as a representation: `self | m` may be written in many ways) -/
def isFlag (m : Byte) (g : (Nat × Nat) × (Nat × Nat)) : Bool :=
  (List.range 256).all fun n =>
    applyKS (BitVec.ofNat 8 n) g.1 == (BitVec.ofNat 8 n ||| m) && applyKS (BitVec.ofNat 8 n) g.2 == (BitVec.ofNat 8 n &&& ~~~m)

/-- `b ↦ (b &&& keep) ||| set` is fixed by its values at `0x00` (`set`) and at `0xFF` (`keep ||| set`):
    a translated arm writes code `c` to field `F` iff it does so on these two contents -/
def armOk (F : DS.Field) (c : Nat) : Option (Nat × Nat) → Bool
  | some (k, s) => BitVec.ofNat 8 s == F.ins c 0#8 && (BitVec.ofNat 8 k ||| BitVec.ofNat 8 s) == F.ins c 0xFF#8
  | none => false

theorem applyKS_of_armOk (F : DS.Field) (c : Nat) (ks : Nat × Nat) (h : armOk F c (some ks) = true) (b : Byte) :
    F.ins c b = applyKS b ks := by
  obtain ⟨k, s⟩ := ks
  obtain ⟨_, m, sh⟩ := F
  simp only [armOk, DS.Field.ins, Bool.and_eq_true, beq_iff_eq, BitVec.zero_and, BitVec.zero_or] at h
  obtain ⟨h1, h2⟩ := h
  simp only [applyKS, DS.Field.ins]
  rw [or_and_distrib b (BitVec.ofNat 8 k), h2, h1, ← or_and_distrib]
  rw [show (255#8 : Byte) &&& ~~~m = ~~~m from BitVec.allOnes_and]

/-- A model encoder known to write field `F` (`Enc`, Lemmas/Field) agrees on all 256 contents with
    translated arms that write the same codes to `F`: two contents per arm are compared. -/
theorem agrees_of_enc {α : Type} {e : Byte → α → Byte} {F : DS.Field} {code : α → Nat} (h : Enc e F code)
    {vs : List α} {arms : List (Option (Nat × Nat))} (hl : vs.length = arms.length := by rfl)
    (ha : ∀ p ∈ vs.zip arms, armOk F (code p.1) p.2 = true := by decide) :
    agrees vs (fun b v => some (e b v)) arms = true := by
  simp only [agrees, hl, beq_self_eq_true, Bool.true_and, List.all_eq_true]
  intro n _ p hp
  have hp' := ha p hp
  obtain ⟨v, arm⟩ := p
  cases arm with
  | none => cases hp'
  | some ks => simp [h _ v, applyKS_of_armOk F _ ks hp']

/-- AccConfig0::with_filt1_bw - High, Low -/
theorem enc_AccConfig0_with_filt1_bw : agrees (α := Filt1Bw) [.high, .low] (fun b v => some (R.acc0_with_filt1_bw b v)) Enc.AccConfig0_with_filt1_bw = true :=
  agrees_of_enc ins_filt1_bw
/-- AccConfig0::with_osr_lp - OSR0, OSR1, OSR2, OSR3 -/
theorem enc_AccConfig0_with_osr_lp : agrees (α := OSR) [.osr0, .osr1, .osr2, .osr3] (fun b v => some (R.acc0_with_osr_lp b v)) Enc.AccConfig0_with_osr_lp = true :=
  agrees_of_enc ins_osr_lp
/-- AccConfig0::with_power_mode - Sleep, LowPower, Normal -/
theorem enc_AccConfig0_with_power_mode : agrees (α := PowerMode) [.sleep, .lowPower, .normal] (fun b v => some (R.acc0_with_power_mode b v)) Enc.AccConfig0_with_power_mode = true :=
  agrees_of_enc ins_power_mode
/-- AccConfig1::with_scale - Range2G, Range4G, Range8G, Range16G -/
theorem enc_AccConfig1_with_scale : agrees (α := Scale) [.r2g, .r4g, .r8g, .r16g] (fun b v => some (R.acc1_with_scale b v)) Enc.AccConfig1_with_scale = true :=
  agrees_of_enc ins_scale
/-- AccConfig1::with_osr - OSR0, OSR1, OSR2, OSR3 -/
theorem enc_AccConfig1_with_osr : agrees (α := OSR) [.osr0, .osr1, .osr2, .osr3] (fun b v => some (R.acc1_with_osr b v)) Enc.AccConfig1_with_osr = true :=
  agrees_of_enc ins_osr
/-- AccConfig1::with_odr - Hz12_5, Hz25, Hz50, Hz100, Hz200, Hz400, Hz800 -/
theorem enc_AccConfig1_with_odr : agrees (α := ODR) [.hz12_5, .hz25, .hz50, .hz100, .hz200, .hz400, .hz800] (fun b v => some (R.acc1_with_odr b v)) Enc.AccConfig1_with_odr = true :=
  agrees_of_enc ins_odr
/-- AccConfig2::with_dta_reg_src - AccFilt1, AccFilt2, AccFilt2Lp -/
theorem enc_AccConfig2_with_dta_reg_src : agrees (α := DataSource) [.filt1, .filt2, .filt2Lp] (fun b v => some (R.acc2_with_dta_reg_src b v)) Enc.AccConfig2_with_dta_reg_src = true :=
  agrees_of_enc ins_dta_reg_src
/-- Int12IOCtrl::with_int1_cfg - PushPull(ActiveLow), PushPull(ActiveHigh), OpenDrain(ActiveLow), OpenDrain(ActiveHigh) -/
theorem enc_Int12IOCtrl_with_int1_cfg : agrees (α := PinCfg) [.pushPull .activeLow, .pushPull .activeHigh, .openDrain .activeLow, .openDrain .activeHigh] (fun b v => some (R.io_with_int1_cfg b v)) Enc.Int12IOCtrl_with_int1_cfg = true := by decide +kernel
/-- Int12IOCtrl::with_int2_cfg - PushPull(ActiveLow), PushPull(ActiveHigh), OpenDrain(ActiveLow), OpenDrain(ActiveHigh) -/
theorem enc_Int12IOCtrl_with_int2_cfg : agrees (α := PinCfg) [.pushPull .activeLow, .pushPull .activeHigh, .openDrain .activeLow, .openDrain .activeHigh] (fun b v => some (R.io_with_int2_cfg b v)) Enc.Int12IOCtrl_with_int2_cfg = true := by decide +kernel
/-- FifoConfig0::with_fifo_src - AccFilt1, AccFilt2, AccFilt2Lp -/
theorem enc_FifoConfig0_with_fifo_src : agrees (α := DataSource) [.filt1, .filt2, .filt2Lp] (fun b v => R.f0_with_fifo_src b v) Enc.FifoConfig0_with_fifo_src = true := by decide +kernel
/-- AutoLowPow1::with_auto_lp_timeout_mode - TimeoutDisabled, TimeoutEnabledNoReset, TimeoutEnabledGen2IntReset -/
theorem enc_AutoLowPow1_with_auto_lp_timeout_mode : agrees (α := AutoLpTrig) [.disabled, .noReset, .gen2Reset] (fun b v => some (R.alp1_with_timeout_mode b v)) Enc.AutoLowPow1_with_auto_lp_timeout_mode = true :=
  agrees_of_enc ins_alp_mode
/-- WakeupIntConfig0::with_reference_mode - Manual, OneTime, EveryTime -/
theorem enc_WakeupIntConfig0_with_reference_mode : agrees (α := WkupRefMode) [.manual, .oneTime, .everyTime] (fun b v => some (R.wk0_with_reference_mode b v)) Enc.WakeupIntConfig0_with_reference_mode = true :=
  agrees_of_enc ins_wkup_refu
/-- OrientChgConfig0::with_data_src - AccFilt1, AccFilt2, AccFilt2Lp -/
theorem enc_OrientChgConfig0_with_data_src : agrees (α := DataSource) [.filt1, .filt2, .filt2Lp] (fun b v => R.or0_with_data_src b v) Enc.OrientChgConfig0_with_data_src = true := by decide +kernel
/-- OrientChgConfig0::with_update_mode - Manual, AccFilt2, AccFilt2Lp -/
theorem enc_OrientChgConfig0_with_update_mode : agrees (α := OrientRefMode) [.manual, .filt2, .filt2Lp] (fun b v => some (R.or0_with_update_mode b v)) Enc.OrientChgConfig0_with_update_mode = true :=
  agrees_of_enc ins_ori_refu
/-- Gen1IntConfig0::with_src - AccFilt1, AccFilt2, AccFilt2Lp -/
theorem enc_Gen1IntConfig0_with_src : agrees (α := DataSource) [.filt1, .filt2, .filt2Lp] (fun b v => R.g0_with_src b v) Enc.Gen1IntConfig0_with_src = true := by decide +kernel
/-- Gen1IntConfig0::with_refu_mode - Manual, OneTime, EveryTimeFromSrc, EveryTimeFromLp -/
theorem enc_Gen1IntConfig0_with_refu_mode : agrees (α := GenRefMode) [.manual, .oneTime, .everyTimeSrc, .everyTimeLp] (fun b v => some (R.g0_with_refu_mode b v)) Enc.Gen1IntConfig0_with_refu_mode = true :=
  agrees_of_enc (ins_gen_refu 0)
/-- Gen1IntConfig0::with_act_hysteresis - None, Hyst24mg, Hyst48mg, Hyst96mg -/
theorem enc_Gen1IntConfig0_with_act_hysteresis : agrees (α := Hyst) [.none, .h24, .h48, .h96] (fun b v => some (R.g0_with_act_hysteresis b v)) Enc.Gen1IntConfig0_with_act_hysteresis = true :=
  agrees_of_enc (ins_gen_hyst 0)
/-- Gen1IntConfig1::with_criterion_sel - Inactivity, Activity -/
theorem enc_Gen1IntConfig1_with_criterion_sel : agrees (α := Criterion) [.inactivity, .activity] (fun b v => some (R.g1_with_criterion_sel b v)) Enc.Gen1IntConfig1_with_criterion_sel = true :=
  agrees_of_enc (ins_gen_criterion 0)
/-- Gen1IntConfig1::with_comb_sel - Or, And -/
theorem enc_Gen1IntConfig1_with_comb_sel : agrees (α := Logic) [.or, .and] (fun b v => some (R.g1_with_comb_sel b v)) Enc.Gen1IntConfig1_with_comb_sel = true :=
  agrees_of_enc (ins_gen_comb 0)
/-- Gen2IntConfig0::with_src - AccFilt1, AccFilt2, AccFilt2Lp -/
theorem enc_Gen2IntConfig0_with_src : agrees (α := DataSource) [.filt1, .filt2, .filt2Lp] (fun b v => R.g0_with_src b v) Enc.Gen2IntConfig0_with_src = true := by decide +kernel
/-- Gen2IntConfig0::with_refu_mode - Manual, OneTime, EveryTimeFromSrc, EveryTimeFromLp -/
theorem enc_Gen2IntConfig0_with_refu_mode : agrees (α := GenRefMode) [.manual, .oneTime, .everyTimeSrc, .everyTimeLp] (fun b v => some (R.g0_with_refu_mode b v)) Enc.Gen2IntConfig0_with_refu_mode = true :=
  agrees_of_enc (ins_gen_refu 0)
/-- Gen2IntConfig0::with_act_hysteresis - None, Hyst24mg, Hyst48mg, Hyst96mg -/
theorem enc_Gen2IntConfig0_with_act_hysteresis : agrees (α := Hyst) [.none, .h24, .h48, .h96] (fun b v => some (R.g0_with_act_hysteresis b v)) Enc.Gen2IntConfig0_with_act_hysteresis = true :=
  agrees_of_enc (ins_gen_hyst 0)
/-- Gen2IntConfig1::with_criterion_sel - Inactivity, Activity -/
theorem enc_Gen2IntConfig1_with_criterion_sel : agrees (α := Criterion) [.inactivity, .activity] (fun b v => some (R.g1_with_criterion_sel b v)) Enc.Gen2IntConfig1_with_criterion_sel = true :=
  agrees_of_enc (ins_gen_criterion 0)
/-- Gen2IntConfig1::with_comb_sel - Or, And -/
theorem enc_Gen2IntConfig1_with_comb_sel : agrees (α := Logic) [.or, .and] (fun b v => some (R.g1_with_comb_sel b v)) Enc.Gen2IntConfig1_with_comb_sel = true :=
  agrees_of_enc (ins_gen_comb 0)
/-- ActChgConfig1::with_dta_src - AccFilt1, AccFilt2, AccFilt2Lp -/
theorem enc_ActChgConfig1_with_dta_src : agrees (α := DataSource) [.filt1, .filt2, .filt2Lp] (fun b v => R.ac1_with_dta_src b v) Enc.ActChgConfig1_with_dta_src = true := by decide +kernel
/-- ActChgConfig1::with_observation_period - Samples32, Samples64, Samples128, Samples256, Samples512 -/
theorem enc_ActChgConfig1_with_observation_period : agrees (α := ObsPeriod) [.s32, .s64, .s128, .s256, .s512] (fun b v => some (R.ac1_with_observation_period b v)) Enc.ActChgConfig1_with_observation_period = true :=
  agrees_of_enc ins_obs_period
/-- TapConfig0::with_axis - X, Y, Z -/
theorem enc_TapConfig0_with_axis : agrees (α := Axis) [.x, .y, .z] (fun b v => some (R.tap0_with_axis b v)) Enc.TapConfig0_with_axis = true :=
  agrees_of_enc ins_tap_axis
/-- TapConfig0::with_sensitivity - SENS0, SENS1, SENS2, SENS3, SENS4, SENS5, SENS6, SENS7 -/
theorem enc_TapConfig0_with_sensitivity : agrees (α := TapSens) [.s0, .s1, .s2, .s3, .s4, .s5, .s6, .s7] (fun b v => some (R.tap0_with_sensitivity b v)) Enc.TapConfig0_with_sensitivity = true :=
  agrees_of_enc ins_tap_sens
/-- TapConfig1::with_min_tap_duration - Samples4, Samples8, Samples12, Samples16 -/
theorem enc_TapConfig1_with_min_tap_duration : agrees (α := MinTapDur) [.s4, .s8, .s12, .s16] (fun b v => some (R.tap1_with_min_tap_duration b v)) Enc.TapConfig1_with_min_tap_duration = true :=
  agrees_of_enc ins_min_tap
/-- TapConfig1::with_double_tap_duration - Samples60, Samples80, Samples100, Samples120 -/
theorem enc_TapConfig1_with_double_tap_duration : agrees (α := DTapDur) [.s60, .s80, .s100, .s120] (fun b v => some (R.tap1_with_double_tap_duration b v)) Enc.TapConfig1_with_double_tap_duration = true :=
  agrees_of_enc ins_dtap
/-- TapConfig1::with_max_tap_duration - Samples6, Samples9, Samples12, Samples18 -/
theorem enc_TapConfig1_with_max_tap_duration : agrees (α := MaxTapDur) [.s6, .s9, .s12, .s18] (fun b v => some (R.tap1_with_max_tap_duration b v)) Enc.TapConfig1_with_max_tap_duration = true :=
  agrees_of_enc ins_max_tap

/-- `b ↦ (b &&& keep) ||| set` is `union m` exactly when `set = m` and `keep ||| set` is all ones, and
    `difference m` exactly when `set = 0` and `keep = ~~~m`: four comparisons instead of 256 contents -/
theorem isFlag_of {m : Byte} {g : (Nat × Nat) × (Nat × Nat)}
    (h : BitVec.ofNat 8 g.1.2 = m ∧ BitVec.ofNat 8 g.1.1 ||| m = 0xFF#8 ∧
         BitVec.ofNat 8 g.2.2 = 0#8 ∧ BitVec.ofNat 8 g.2.1 = ~~~m) : isFlag m g = true := by
  obtain ⟨h1, h2, h3, h4⟩ := h
  refine List.all_eq_true.mpr fun n _ => ?_
  simp only [applyKS, h1, h3, h4, or_of_cover h2, BitVec.or_zero, beq_self_eq_true, Bool.and_self]

/-- the 61 bool setters -/
theorem enc_flags :
    isFlag R.ic0_DRDY Enc.IntConfig0_with_dta_rdy_int = true ∧
    isFlag R.ic0_FWM Enc.IntConfig0_with_fwm_int = true ∧
    isFlag R.ic0_FFULL Enc.IntConfig0_with_ffull_int = true ∧
    isFlag R.ic0_GEN2 Enc.IntConfig0_with_gen2_int = true ∧
    isFlag R.ic0_GEN1 Enc.IntConfig0_with_gen1_int = true ∧
    isFlag R.ic0_ORIENTCH Enc.IntConfig0_with_orientch_int = true ∧
    isFlag R.ic1_LATCH Enc.IntConfig1_with_latch_int = true ∧
    isFlag R.ic1_ACTCH Enc.IntConfig1_with_actch_int = true ∧
    isFlag R.ic1_STAP Enc.IntConfig1_with_s_tap_int = true ∧
    isFlag R.ic1_DTAP Enc.IntConfig1_with_d_tap_int = true ∧
    isFlag R.ic1_STEP Enc.IntConfig1_with_step_int = true ∧
    isFlag R.map_DRDY Enc.Int1Map_with_drdy = true ∧
    isFlag R.map_FWM Enc.Int1Map_with_fwm = true ∧
    isFlag R.map_FFULL Enc.Int1Map_with_ffull = true ∧
    isFlag R.map_OVRRN Enc.Int1Map_with_ovrrn = true ∧
    isFlag R.map_GEN2 Enc.Int1Map_with_gen2 = true ∧
    isFlag R.map_GEN1 Enc.Int1Map_with_gen1 = true ∧
    isFlag R.map_ORIENTCH Enc.Int1Map_with_orientch = true ∧
    isFlag R.map_WKUP Enc.Int1Map_with_wkup = true ∧
    isFlag R.map_DRDY Enc.Int2Map_with_drdy = true ∧
    isFlag R.map_FWM Enc.Int2Map_with_fwm = true ∧
    isFlag R.map_FFULL Enc.Int2Map_with_ffull = true ∧
    isFlag R.map_OVRRN Enc.Int2Map_with_ovrrn = true ∧
    isFlag R.map_GEN2 Enc.Int2Map_with_gen2 = true ∧
    isFlag R.map_GEN1 Enc.Int2Map_with_gen1 = true ∧
    isFlag R.map_ORIENTCH Enc.Int2Map_with_orientch = true ∧
    isFlag R.map_WKUP Enc.Int2Map_with_wkup = true ∧
    isFlag R.m12_ACTCH2 Enc.Int12Map_with_actch2 = true ∧
    isFlag R.m12_ACTCH1 Enc.Int12Map_with_actch1 = true ∧
    isFlag R.m12_TAP2 Enc.Int12Map_with_tap2 = true ∧
    isFlag R.m12_TAP1 Enc.Int12Map_with_tap1 = true ∧
    isFlag R.m12_STEP2 Enc.Int12Map_with_step2 = true ∧
    isFlag R.m12_STEP1 Enc.Int12Map_with_step1 = true ∧
    isFlag R.f0_Z Enc.FifoConfig0_with_fifo_z = true ∧
    isFlag R.f0_Y Enc.FifoConfig0_with_fifo_y = true ∧
    isFlag R.f0_X Enc.FifoConfig0_with_fifo_x = true ∧
    isFlag R.f0_8BIT Enc.FifoConfig0_with_fifo_8bit = true ∧
    isFlag R.f0_TIME Enc.FifoConfig0_with_send_time_on_empty = true ∧
    isFlag R.f0_STOP Enc.FifoConfig0_with_stop_on_full = true ∧
    isFlag R.f0_FLUSH Enc.FifoConfig0_with_flush_on_pwr_mode_change = true ∧
    isFlag R.fpwr_READ_DISABLE Enc.FifoPwrConfig_with_fifo_pwr_disable = true ∧
    isFlag R.alp1_GEN1_TRIG Enc.AutoLowPow1_with_gen1_int_trigger = true ∧
    isFlag R.alp1_DRDY_TRIG Enc.AutoLowPow1_with_drdy_trigger = true ∧
    isFlag R.awk1_WKUP_TIMEOUT Enc.AutoWakeup1_with_wakeup_timeout = true ∧
    isFlag R.awk1_WKUP_INT Enc.AutoWakeup1_with_wakeup_int = true ∧
    isFlag R.wk0_Z Enc.WakeupIntConfig0_with_z_axis = true ∧
    isFlag R.wk0_Y Enc.WakeupIntConfig0_with_y_axis = true ∧
    isFlag R.wk0_X Enc.WakeupIntConfig0_with_x_axis = true ∧
    isFlag R.or0_Z Enc.OrientChgConfig0_with_z_axis = true ∧
    isFlag R.or0_Y Enc.OrientChgConfig0_with_y_axis = true ∧
    isFlag R.or0_X Enc.OrientChgConfig0_with_x_axis = true ∧
    isFlag R.g0_Z Enc.Gen1IntConfig0_with_z_axis = true ∧
    isFlag R.g0_Y Enc.Gen1IntConfig0_with_y_axis = true ∧
    isFlag R.g0_X Enc.Gen1IntConfig0_with_x_axis = true ∧
    isFlag R.g0_Z Enc.Gen2IntConfig0_with_z_axis = true ∧
    isFlag R.g0_Y Enc.Gen2IntConfig0_with_y_axis = true ∧
    isFlag R.g0_X Enc.Gen2IntConfig0_with_x_axis = true ∧
    isFlag R.ac1_Z Enc.ActChgConfig1_with_z_axis = true ∧
    isFlag R.ac1_Y Enc.ActChgConfig1_with_y_axis = true ∧
    isFlag R.ac1_X Enc.ActChgConfig1_with_x_axis = true ∧
    isFlag R.ifc_SPI3 Enc.InterfaceConfig_with_spi_3wire_mode = true := by
  repeat' apply And.intro
  all_goals exact isFlag_of (by decide)

/-- the 38 numeric setters: (type, pattern, field mask, all-bits mask = datasheet defined mask) -/
theorem enc_numeric :
    [Enc.FifoConfig1_with_fifo_wtrmk_threshold, Enc.FifoConfig2_with_fifo_wtrmk_threshold, Enc.AutoLowPow0_with_auto_lp_timeout_msb, Enc.AutoLowPow1_with_auto_lp_timeout_lsb, Enc.AutoWakeup0_with_wakeup_timeout_msb, Enc.AutoWakeup1_with_wakeup_timeout_lsb, Enc.WakeupIntConfig0_with_num_samples, Enc.WakeupIntConfig1_with_threshold, Enc.WakeupIntConfig2_with_x_ref, Enc.WakeupIntConfig3_with_y_ref, Enc.WakeupIntConfig4_with_z_ref, Enc.OrientChgConfig1_with_orient_thresh, Enc.OrientChgConfig3_with_orient_dur, Enc.OrientChgConfig4_with_refx_lsb, Enc.OrientChgConfig5_with_refx_msb, Enc.OrientChgConfig6_with_refy_lsb, Enc.OrientChgConfig7_with_refy_msb, Enc.OrientChgConfig8_with_refz_lsb, Enc.OrientChgConfig9_with_refz_msb, Enc.Gen1IntConfig2_with_threshold, Enc.Gen1IntConfig3_with_duration_msb, Enc.Gen1IntConfig31_with_duration_lsb, Enc.Gen1IntConfig4_with_ref_x_lsb, Enc.Gen1IntConfig5_with_ref_x_msb, Enc.Gen1IntConfig6_with_ref_y_lsb, Enc.Gen1IntConfig7_with_ref_y_msb, Enc.Gen1IntConfig8_with_ref_z_lsb, Enc.Gen1IntConfig9_with_ref_z_msb, Enc.Gen2IntConfig2_with_threshold, Enc.Gen2IntConfig3_with_duration_msb, Enc.Gen2IntConfig31_with_duration_lsb, Enc.Gen2IntConfig4_with_ref_x_lsb, Enc.Gen2IntConfig5_with_ref_x_msb, Enc.Gen2IntConfig6_with_ref_y_lsb, Enc.Gen2IntConfig7_with_ref_y_msb, Enc.Gen2IntConfig8_with_ref_z_lsb, Enc.Gen2IntConfig9_with_ref_z_msb, Enc.ActChgConfig0_with_actch_thres]
    = [(0, 0, 0x00, (DS.definedMask 0x27).toNat),
     (0, 0, 0x00, (DS.definedMask 0x28).toNat),
     (1, 1, 0x00, (DS.definedMask 0x2A).toNat),
     (1, 4, 0xF0, (DS.definedMask 0x2B).toNat),
     (1, 1, 0x00, (DS.definedMask 0x2C).toNat),
     (1, 4, 0xF0, (DS.definedMask 0x2D).toNat),
     (0, 5, 0x1C, (DS.definedMask 0x2F).toNat),
     (0, 0, 0x00, (DS.definedMask 0x30).toNat),
     (0, 0, 0x00, (DS.definedMask 0x31).toNat),
     (0, 0, 0x00, (DS.definedMask 0x32).toNat),
     (0, 0, 0x00, (DS.definedMask 0x33).toNat),
     (0, 0, 0x00, (DS.definedMask 0x36).toNat),
     (0, 0, 0x00, (DS.definedMask 0x38).toNat),
     (2, 2, 0x00, (DS.definedMask 0x39).toNat),
     (2, 3, 0x00, (DS.definedMask 0x3A).toNat),
     (2, 2, 0x00, (DS.definedMask 0x3B).toNat),
     (2, 3, 0x00, (DS.definedMask 0x3C).toNat),
     (2, 2, 0x00, (DS.definedMask 0x3D).toNat),
     (2, 3, 0x00, (DS.definedMask 0x3E).toNat),
     (0, 0, 0x00, (DS.definedMask 0x41).toNat),
     (0, 0, 0x00, (DS.definedMask 0x42).toNat),
     (0, 0, 0x00, (DS.definedMask 0x43).toNat),
     (0, 0, 0x00, (DS.definedMask 0x44).toNat),
     (0, 0, 0x00, (DS.definedMask 0x45).toNat),
     (0, 0, 0x00, (DS.definedMask 0x46).toNat),
     (0, 0, 0x00, (DS.definedMask 0x47).toNat),
     (0, 0, 0x00, (DS.definedMask 0x48).toNat),
     (0, 0, 0x00, (DS.definedMask 0x49).toNat),
     (0, 0, 0x00, (DS.definedMask 0x4C).toNat),
     (0, 0, 0x00, (DS.definedMask 0x4D).toNat),
     (0, 0, 0x00, (DS.definedMask 0x4E).toNat),
     (0, 0, 0x00, (DS.definedMask 0x4F).toNat),
     (0, 0, 0x00, (DS.definedMask 0x50).toNat),
     (0, 0, 0x00, (DS.definedMask 0x51).toNat),
     (0, 0, 0x00, (DS.definedMask 0x52).toNat),
     (0, 0, 0x00, (DS.definedMask 0x53).toNat),
     (0, 0, 0x00, (DS.definedMask 0x54).toNat),
     (0, 0, 0x00, (DS.definedMask 0x55).toNat)] := by decide +kernel

/-! the six body patterns, read as functions (u16 / i16 arguments as `Nat` / `Int`, reduced
    modulo 65536 as the Rust types are) -/
def semId (all : Nat) (x : Byte) : Byte := trunc (BitVec.ofNat 8 all) x
def semShr4Lo (all : Nat) (x : Nat) : Byte := trunc (BitVec.ofNat 8 all) (u16lo (x % 65536 / 16))
def semLe0 (all : Nat) (x : Int) : Byte := trunc (BitVec.ofNat 8 all) (i16lo x)
def semLe1 (all : Nat) (x : Int) : Byte := trunc (BitVec.ofNat 8 all) (i16hi x)
def semKeepShl4Lo (field all : Nat) (b : Byte) (x : Nat) : Byte :=
  uni (clr b (BitVec.ofNat 8 field)) (trunc (BitVec.ofNat 8 all) (u16lo (x * 16)))
def semKeepShl2 (field all : Nat) (b x : Byte) : Byte :=
  uni (clr b (BitVec.ofNat 8 field)) (trunc (BitVec.ofNat 8 all) (x <<< 2))

/-- the model's numeric encoders are those patterns with the TRANSLATED masks -/
theorem enc_numeric_model :
    (∀ t, R.f1_with_thresh t = semId Enc.FifoConfig1_with_fifo_wtrmk_threshold.2.2.2 t) ∧
    (∀ t, R.f2_with_thresh t = semId Enc.FifoConfig2_with_fifo_wtrmk_threshold.2.2.2 t) ∧
    (∀ x, R.alp0_with_timeout_msb x = semShr4Lo Enc.AutoLowPow0_with_auto_lp_timeout_msb.2.2.2 x) ∧
    (∀ b x, R.alp1_with_timeout_lsb b x = semKeepShl4Lo Enc.AutoLowPow1_with_auto_lp_timeout_lsb.2.2.1
        Enc.AutoLowPow1_with_auto_lp_timeout_lsb.2.2.2 b x) ∧
    (∀ x, R.awk0_with_timeout_msb x = semShr4Lo Enc.AutoWakeup0_with_wakeup_timeout_msb.2.2.2 x) ∧
    (∀ b x, R.awk1_with_timeout_lsb b x = semKeepShl4Lo Enc.AutoWakeup1_with_wakeup_timeout_lsb.2.2.1
        Enc.AutoWakeup1_with_wakeup_timeout_lsb.2.2.2 b x) ∧
    (∀ b n, R.wk0_with_num_samples b n = semKeepShl2 Enc.WakeupIntConfig0_with_num_samples.2.2.1
        Enc.WakeupIntConfig0_with_num_samples.2.2.2 b n) ∧
    (∀ v, R.ref_lsb_i16 v = semLe0 Enc.OrientChgConfig4_with_refx_lsb.2.2.2 v) ∧
    (∀ v, R.ref_msb_i16 v = semLe1 Enc.OrientChgConfig5_with_refx_msb.2.2.2 v) :=
  ⟨fun _ => rfl, fun _ => rfl, fun _ => rfl, fun _ _ => rfl, fun _ => rfl, fun _ _ => rfl, fun _ _ => rfl,
   fun _ => rfl, fun _ => rfl⟩

/-- nothing was skipped: 31 + 61 + 38 = all 130 `with_*` encoders of the configuration registers -/
theorem enc_counts : Enc.counts = (31, 61, 38) := by decide

/-! ## decoders (`fn(&self) -> bool | Enum`), translated the same way -/

/-- the 32 `self.intersects(MASK)` decoders test the model's mask constants (`has b m`) -/
theorem dec_flags :
    [Enc.IntConfig0_get_dta_rdy_int, Enc.IntConfig0_get_fwm_int, Enc.IntConfig0_get_ffull_int, Enc.IntConfig0_get_gen2_int, Enc.IntConfig0_get_gen1_int, Enc.IntConfig0_get_orientch_int, Enc.IntConfig1_get_actch_int, Enc.IntConfig1_get_s_tap_int, Enc.IntConfig1_get_d_tap_int, Enc.IntConfig1_get_step_int, Enc.Int1Map_get_drdy_int, Enc.Int1Map_get_fwm_int, Enc.Int1Map_get_ffull_int, Enc.Int1Map_get_gen2_int, Enc.Int1Map_get_gen1_int, Enc.Int1Map_get_orientch_int, Enc.Int1Map_get_wkup_int, Enc.Int2Map_get_drdy_int, Enc.Int2Map_get_fwm_int, Enc.Int2Map_get_ffull_int, Enc.Int2Map_get_gen2_int, Enc.Int2Map_get_gen1_int, Enc.Int2Map_get_orientch_int, Enc.Int2Map_get_wkup_int, Enc.Int12Map_get_actch_int2, Enc.Int12Map_get_actch_int1, Enc.Int12Map_get_tap_int2, Enc.Int12Map_get_tap_int1, Enc.Int12Map_get_step_int2, Enc.Int12Map_get_step_int1, Enc.FifoPwrConfig_get_fifo_pwr_disable, Enc.WakeupIntConfig0_get_wkup_int_en]
    = [(R.ic0_DRDY).toNat, (R.ic0_FWM).toNat, (R.ic0_FFULL).toNat, (R.ic0_GEN2).toNat, (R.ic0_GEN1).toNat, (R.ic0_ORIENTCH).toNat, (R.ic1_ACTCH).toNat, (R.ic1_STAP).toNat, (R.ic1_DTAP).toNat, (R.ic1_STEP).toNat, (R.map_DRDY).toNat, (R.map_FWM).toNat, (R.map_FFULL).toNat, (R.map_GEN2).toNat, (R.map_GEN1).toNat, (R.map_ORIENTCH).toNat, (R.map_WKUP).toNat, (R.map_DRDY).toNat, (R.map_FWM).toNat, (R.map_FFULL).toNat, (R.map_GEN2).toNat, (R.map_GEN1).toNat, (R.map_ORIENTCH).toNat, (R.map_WKUP).toNat, (R.m12_ACTCH2).toNat, (R.m12_ACTCH1).toNat, (R.m12_TAP2).toNat, (R.m12_TAP1).toNat, (R.m12_STEP2).toNat, (R.m12_STEP1).toNat, (R.fpwr_READ_DISABLE).toNat, (R.wk0_AXES).toNat] := by decide +kernel

def decodeIf {α : Type} (vs : List α) (d : α) (g : Nat × Nat × Nat) (b : Byte) : α :=
  if (b &&& BitVec.ofNat 8 g.1) != 0#8 then vs.getD g.2.1 d else vs.getD g.2.2 d

def decodeTable {α : Type} (vs : List α) (d : α) (g : Nat × Nat × List (Nat × Nat) × Nat) (b : Byte) : α :=
  let code := ((b &&& BitVec.ofNat 8 g.1) >>> g.2.1).toNat
  match g.2.2.1.find? (fun p => p.1 == code) with
  | some p => vs.getD p.2 d
  | none => vs.getD g.2.2.2 d

/-- the enum decoders, as functions on all 256 register contents (variants in declaration order) -/
theorem dec_enums :
    ((List.range 256).all fun n =>
      let b := BitVec.ofNat 8 n
      R.g0_src b == decodeIf [DataSource.filt1, .filt2, .filt2Lp] .filt1 Enc.Gen1IntConfig0_get_src b &&
      R.g0_src b == decodeIf [DataSource.filt1, .filt2, .filt2Lp] .filt1 Enc.Gen2IntConfig0_get_src b &&
      R.ac1_src b == decodeIf [DataSource.filt1, .filt2, .filt2Lp] .filt1 Enc.ActChgConfig1_get_src b &&
      R.acc1_scale b == decodeTable [Scale.r2g, .r4g, .r8g, .r16g] .r2g Enc.AccConfig1_get_scale b &&
      R.acc1_odr b == decodeTable [ODR.hz12_5, .hz25, .hz50, .hz100, .hz200, .hz400, .hz800] .hz12_5 Enc.AccConfig1_get_odr b) = true := by
  decide +kernel

/-- all 37 decoders: 32 + 3 + 2 -/
theorem dec_counts : Enc.decoderCounts = (32, 3, 2) := by decide

end Thm
end Bma400
