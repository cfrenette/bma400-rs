/-
  C13 - SPI accesses are chip-select bracketed and follow the BMA400 SPI protocol.

  `C13_exec`: for EVERY list of bus actions with 7-bit register addresses, every
  fault schedule (pin and data faults at any positions) and every start state,
  the journal the SPI transport produces satisfies `P.C13`:
    * it decodes (`P.decodeSpi`) as a sequence of chip-select windows, each
      `csLow; write [addr (bit 7 clear), value]; csHigh`  or
      `csLow; transfer [addr | 0x80, dummy]; transfer n bytes; csHigh`,
    * no byte is clocked while chip-select is high,
    * if the call succeeds, chip-select is high at its end.
  `C13_exact`: fault-free, the windows are exactly the actions, in order, with
  exactly the requested read lengths.  `C13_runOp` / `C13_runCtor`: the same for
  every API call and both SPI constructors.
-/
import Bma400.Lemmas.Step
import Bma400.Lemmas.Plan
namespace Bma400
namespace Thm
open P

/-- an acknowledged frame starts and ends with chip-select high -/
theorem cs_acked (act : Act) (rest : List JEntry) :
    csAfter true (acked (frame .spi act) ++ rest) = csAfter true rest ∧
    noDataWhileHigh true (acked (frame .spi act) ++ rest) = noDataWhileHigh true rest := by
  cases act <;> simp [frame, acked, csAfter, noDataWhileHigh]

/-- a frame cut by a failure clocks no byte while chip-select is high -/
theorem ndwh_cut {act : Act} {i : Nat} {pin : Bool} {s : List JEntry} (hc : Cut .spi act i pin s) :
    noDataWhileHigh true s = true := by
  cases hc with
  | low | wrHigh | rdHigh => rfl
  | wrData _ _ _ okh | rdHead _ _ okh | rdData _ _ okh => cases okh <;> rfl

theorem C13_exec (fails : Nat → Bool) (acts : List Act) (hwf : ActsWf acts) :
    ∀ (w : World) (reads : List (List Byte)),
      C13 (exec .spi fails w acts reads).1 (isOkR (exec .spi fails w acts reads).2.2) := by
  intro w reads
  obtain ⟨_, _, _, hd, _⟩ := decode_exec .spi fails acts hwf w reads
  refine ⟨by rw [show decodeSpi _ = _ from hd]; rfl, ?_⟩
  refine exec_ind .spi fails (motive := fun _ _ _ r => noDataWhileHigh true r.1 = true ∧
    (isOkR r.2.2 = true → csAfter true r.1 = true)) ?_ ?_ ?_ acts w reads
  · intro _ _; exact ⟨rfl, fun _ => rfl⟩
  · intro w act rest reads i pin s hc _
    exact ⟨ndwh_cut hc, fun h => by cases h⟩
  · intro w act rest reads r ih
    rw [(cs_acked act r.1).1, (cs_acked act r.1).2]
    exact ih

theorem C13_exact (acts : List Act) (hwf : ActsWf acts) :
    ∀ (w : World) (reads : List (List Byte)),
      decodeSpi (exec .spi noFaults w acts reads).1 = some (acts.map Act.acc) :=
  decode_exact .spi acts hwf

theorem C13_mono {j : List JEntry} {s s' : Bool} (hc : C13 j s) (h : s' = true → s = true) : C13 j s' :=
  ⟨hc.1, hc.2.1, fun hs => hc.2.2 (h hs)⟩

/-- every API call over SPI, any fault schedule (a call that fails for a reason other than
    the bus - rejected request, failed self test - has a fault-free journal, for which
    `C20_runOp` gives the released chip-select) -/
theorem C13_runOp (fails : Nat → Bool) (w : World) (op : Op) :
    C13 (runOp .spi fails w op).1 (runOp .spi fails w op).2.2.isOk := by
  refine runOp_cases (motive := fun r => C13 r.1 r.2.2.isOk) _ fails w op (fun _ _ => ?_) (fun _ r h => ?_)
  · exact (by decide : C13 [] false)
  · subst h
    exact C13_mono (C13_exec fails _ (plan_wf _ op) _ _) isOk_callOutcome

theorem C13_runCtor (dev : Nat) (fails : Nat → Bool) (chip : Chip) (c : Ctor) (hc : c ≠ .newI2c) :
    C13 (runCtor dev fails chip c).1 (runCtor dev fails chip c).2.2.isOk := by
  have ht : c.transport dev = .spi := by cases c <;> simp_all [Ctor.transport]
  refine runCtor_cases (motive := fun r => C13 r.1 r.2.2.isOk) dev fails chip c (fun r h => ?_)
  subst h
  rw [ht]
  exact C13_mono (C13_exec fails _ (ctor_wf c) _ _) isOk_callOutcome

/-- the SPI constructors begin with a throw-away read of the chip id, and the 3-wire one
    enables 3-wire mode (C18's SPI clauses) -/
theorem C13_ctor_acts :
    Ctor.newSpi.acts = [.rd 0x00 1, .rd 0x00 1] ∧
    Ctor.newSpi3.acts = [.rd 0x00 1, .rd 0x00 1, .wr 0x7C 0x01#8 .none] := by
  constructor <;> rfl

/-- non-vacuity: a concrete program with a data fault in the middle of a read -/
example : C13 (exec .spi (fun i => i == 5) { chip := Chip.powerOn (fun _ => 0x90#8) [] [] [], shadow := shadowDefault }
    [.wr 0x19 0x02#8 .commit, .rd 0x04 6, .wr 0x1A 0x09#8 .commit] []).1 false := by decide

end Thm
end Bma400
