/-
  C14 - the driver behaves identically over I2C and SPI.

  `exec_i2c_refines` / `exec_spi_refines`: for EVERY list of actions with 7-bit addresses,
  fault-free, the I2C run and the SPI run (from a chip whose chip-select is high and that has
  left its power-on I2C mode - which is what the SPI constructors' throw-away read is for,
  `exec_spi_first`) both return exactly the bytes of the transport-free run `aexec`
  (Lemmas/Refine), leave its recorded configuration and a chip with its registers / data.
  `C14`: hence the two transports agree with each other on returned bytes, recorded
  configuration and final device, and their journals decode (`C12_exact`, `C13_exact`) to the
  same register-level accesses, namely the actions themselves.  `C14_call`, `C14_program`
  (Thm/Programs) compare the two transports call by call, result values included.
-/
import Bma400.Lemmas.Refine
import Bma400.Thm.C12
import Bma400.Thm.C13
namespace Bma400
namespace Thm
open P

theorem exec_i2c_refines (dev : Nat) (acts : List Act) (hwf : ActsWf acts) :
    ∀ (w : World) (reads : List (List Byte)),
      Refines (exec (.i2c dev) noFaults w acts reads) (aexec w.chip w.shadow acts reads) :=
  fun w reads => (exec_refines_idle (.i2c dev) acts hwf w reads (fun h => nomatch h)).1

theorem exec_spi_refines (acts : List Act) (hwf : ActsWf acts) :
    ∀ (w : World) (reads : List (List Byte)), w.chip.csHigh = true → w.chip.spiMode = true →
      Refines (exec .spi noFaults w acts reads) (aexec w.chip w.shadow acts reads) ∧
      (exec .spi noFaults w acts reads).2.1.chip.csHigh = true ∧
      (exec .spi noFaults w acts reads).2.1.chip.spiMode = true :=
  fun w reads hcs hsm =>
    have h := exec_refines_idle .spi acts hwf w reads (fun _ => ⟨hcs, hsm⟩)
    ⟨h.1, h.2 rfl⟩

/-- C14: the same program over both transports, fault-free, from the same device state -/
theorem C14 (dev : Nat) (acts : List Act) (hwf : ActsWf acts) (wi ws : World) (reads : List (List Byte))
    (hchip : Chip.Same wi.chip ws.chip) (hsh : wi.shadow = ws.shadow)
    (hcs : ws.chip.csHigh = true) (hsm : ws.chip.spiMode = true) :
    let ri := exec (.i2c dev) noFaults wi acts reads
    let rs := exec .spi noFaults ws acts reads
    -- same register-level accesses
    decodeI2c dev ri.1 = decodeSpi rs.1 ∧
    -- same bytes returned, no error on either side
    (∃ out, ri.2.2 = .ok out ∧ rs.2.2 = .ok out) ∧
    -- same recorded configuration and same final device
    ri.2.1.shadow = rs.2.1.shadow ∧ Chip.Same ri.2.1.chip rs.2.1.chip := by
  intro ri rs
  have hi := exec_i2c_refines dev acts hwf wi reads
  have hs := (exec_spi_refines acts hwf ws reads hcs hsm).1
  have ha := aexec_same acts wi.chip ws.chip wi.shadow reads hchip
  rw [hsh] at ha hi
  refine ⟨?_, ?_, ?_, ?_⟩
  · rw [C12_exact dev acts hwf, C13_exact acts hwf]
  · exact ⟨_, hi.ok, by rw [hs.ok, ha.2]⟩
  · rw [hi.2.1, hs.2.1, ha.2]
  · exact hi.1.trans (ha.1.trans hs.1.symm)

end Thm
end Bma400
