/-
  C01 - an accepted config write leaves the device holding exactly that configuration.

  `C01_effect`  for EVERY builder, EVERY list of setters, EVERY recorded configuration `sh`
      and device `chip` that agree on the configuration registers (`Coherent`, an
      invariant of all histories of accepted / rejected / bus-failed calls, self
      tests and soft resets - Thm/C16): if `write()` is accepted, then after its
      whole write script
        * every register of the builder's block holds the builder's copy after the
          setters (`Request.target`, shown equal to the datasheet-level target
          `DS.Request.spec` in Thm/C02), and
        * every other register - in particular every interrupt-enable register the
          script switched off temporarily - holds the value it had before.
  `C01_spec`    the same in the exact form `P.C01` that `judge` evaluates on the real
      crate's register dumps, under the additional invariant that no reserved bit is set.
  `C01_shadow`  the recorded configuration follows: it is coherent with the device again.
-/
import Bma400.Lemmas.Scripts
import Bma400.Thm.C02
namespace Bma400
namespace Thm
open P

theorem C01_effect (q : Request) (sh chip : Regs) (hco : Coherent sh chip) (ws : List W)
    (h : q.script sh = .ok ws) :
    ∀ x, applyWrites chip ws x = if x ∈ q.block then q.target sh x else chip x := by
  intro x
  have wf := layout_wf q sh (q.target sh)
  rw [script_layout h]
  generalize layout sh (q.target sh) q = L at wf ⊢
  have hc : ∀ a ∈ L.Ts ++ L.body, chip a = sh a := by
    intro a ha
    refine (hco a ?_).symm
    rcases List.mem_append.1 ha with ha | ha
    · exact enable_sub_cfg a (wf.enable a ha)
    · exact block_sub_cfg q a (wf.body_block a ha)
  rw [Layout.effect wf.sep chip hc]
  by_cases hT : x ∈ L.Ts
  · rw [if_pos hT, wf.fin x hT, hc x (by simp [hT])]
  · rw [if_neg hT]
    by_cases hb : x ∈ q.block
    · rw [if_pos hb, if_pos ((wf.block_sub x hb).resolve_right hT)]
    · rw [if_neg hb, if_neg (fun hB => hb (wf.body_block x hB))]

/-- the recorded configuration and the device receive the same writes -/
theorem coherent_applyWrites (sh chip : Regs) (ws : List W) (hco : Coherent sh chip) :
    Coherent (applyWrites sh ws) (applyWrites chip ws) := by
  induction ws generalizing sh chip with
  | nil => exact hco
  | cons w ws ih =>
    simp only [applyWrites]
    apply ih
    intro a ha
    simp only [Regs.set]
    split
    · rfl
    · exact hco a ha

/-- the device ends up in the ideal post-state `P.ideal` -/
theorem C01_ideal (q : Request) (sh chip : Regs) (hco : Coherent sh chip)
    (hdef : ∀ x ∈ DS.cfgAddrs, DefAt sh x) (ws : List W) (h : q.script sh = .ok ws) (a : Nat) :
    applyWrites chip ws a = ideal q chip a := by
  rw [C01_effect q sh chip hco ws h a, ideal]
  split
  · rename_i hb; exact (C02_target q sh chip hco hdef a (block_sub_cfg q a hb)).1
  · rfl

/-- C01 in the form `judge` evaluates on the crate (`P.C01`), and the observable part of C02
    (`P.C02`): from a coherent state without reserved bits, after an accepted `write()` the
    block holds the datasheet-level target and everything else is unchanged -/
theorem C01_spec (q : Request) (sh chip : Regs) (hco : Coherent sh chip)
    (hdef : ∀ x ∈ DS.cfgAddrs, DefAt sh x) (ws : List W) (h : q.script sh = .ok ws) :
    P.C01 q chip (applyWrites chip ws) ∧ P.C02 q chip (applyWrites chip ws) := by
  have hpost := C01_ideal q sh chip hco hdef ws h
  refine ⟨fun a _ => hpost a, fun a hb => by rw [hpost, ideal, if_pos hb], fun a hb => ?_,
    fun a _ hb => by rw [hpost, ideal, if_neg hb]⟩
  rw [C01_effect q sh chip hco ws h a, if_pos hb]
  exact (C02_target q sh chip hco hdef a (block_sub_cfg q a hb)).2

/-- after the call the recorded configuration is again coherent and free of reserved bits -/
theorem C01_shadow (q : Request) (sh chip : Regs) (hco : Coherent sh chip)
    (hdef : ∀ x ∈ DS.cfgAddrs, DefAt sh x) (ws : List W) (h : q.script sh = .ok ws) :
    Coherent (applyWrites sh ws) (applyWrites chip ws) ∧ ∀ x ∈ DS.cfgAddrs, DefAt (applyWrites sh ws) x := by
  refine ⟨coherent_applyWrites sh chip ws hco, fun x hx => ?_⟩
  rw [DefAt, C01_effect q sh sh (fun a _ => rfl) ws h x]
  split
  · exact (C02_target q sh sh (fun _ _ => rfl) hdef x hx).2
  · exact hdef x hx

/-- non-vacuity: gen1 enabled on filter 2 at 200 Hz, threshold changed: the script is
    disable, write, re-enable and the device ends with only 0x41 changed -/
def exampleSh : Regs := (shadowDefault.set 0x3F 0x10#8).set 0x1F 0x04#8
example : (match (Request.gen .g1 [.threshold 5#8]).script exampleSh with
    | .ok ws => ws == [⟨0x1F, 0x00#8⟩, ⟨0x41, 0x05#8⟩, ⟨0x1F, 0x04#8⟩]
    | .error _ => false) = true := by decide

end Thm
end Bma400
