/-
  C12 - I2C accesses use the selected device address and exact register framing.

  `C12_exec`: for EVERY list of bus actions (hence every API operation, every
  request, every history), every fault schedule and every start state, the
  journal the I2C transport produces consists only of
    write(dev, [register, value])            for a register write
    write_read(dev, [register], n bytes)     for a read of n bytes
  one raw operation per register access, to the device address `dev` the
  transport was built with (`P.C12`, the predicate `judge` evaluates on the
  crate's journal).  `C12_exact` pins the decoded accesses down to exactly the
  actions executed, in order, for fault-free runs; `C12_runOp`/`C12_runCtor`
  instantiate it for API calls and constructors; `C12_sizes` lists the burst
  length of every operation's reads.
-/
import Bma400.Lemmas.Step
namespace Bma400
namespace Thm
open P

theorem C12_exec (dev : Nat) (fails : Nat → Bool) (acts : List Act) :
    ∀ (w : World) (reads : List (List Byte)), C12 dev (exec (.i2c dev) fails w acts reads).1 := by
  refine exec_ind (.i2c dev) fails (motive := fun _ _ _ r => C12 dev r.1) ?_ ?_ ?_ acts
  · intro _ _; rfl
  · intro w act rest reads i pin s hc _
    cases hc <;> simp [C12, decodeI2c]
  · intro w act rest reads r ih
    cases act <;> simpa [C12, frame, acked, decodeI2c] using ih

theorem C12_exact (dev : Nat) (acts : List Act) (hwf : ActsWf acts) :
    ∀ (w : World) (reads : List (List Byte)),
      decodeI2c dev (exec (.i2c dev) noFaults w acts reads).1 = some (acts.map Act.acc) :=
  decode_exact (.i2c dev) acts hwf

theorem C12_runOp (dev : Nat) (fails : Nat → Bool) (w : World) (op : Op) :
    C12 dev (runOp (.i2c dev) fails w op).1 :=
  runOp_cases (motive := fun r => C12 dev r.1) _ fails w op (fun _ _ => rfl)
    (fun _ _ h => h ▸ C12_exec dev fails _ _ _)

theorem C12_runCtor (dev : Nat) (fails : Nat → Bool) (chip : Chip) :
    C12 dev (runCtor dev fails chip .newI2c).1 :=
  runCtor_cases (motive := fun r => C12 dev r.1) dev fails chip .newI2c
    (fun _ h => h ▸ C12_exec dev fails _ _ _)

/-- "exactly as many bytes as the quantity needs": the reads each operation plans -/
theorem C12_sizes (sh : Regs) :
    (Op.getId.plan sh).acts = [.rd 0x00 1] ∧ (Op.getCmdError.plan sh).acts = [.rd 0x02 1] ∧
    (Op.getStatus.plan sh).acts = [.rd 0x03 1] ∧ (Op.getUnscaled.plan sh).acts = [.rd 0x04 6] ∧
    (Op.getData.plan sh).acts = [.rd 0x04 6] ∧ (Op.getSensorClock.plan sh).acts = [.rd 0x0A 3] ∧
    (Op.getResetStatus.plan sh).acts = [.rd 0x0D 1] ∧ (Op.getIntStatus0.plan sh).acts = [.rd 0x0E 1] ∧
    (Op.getIntStatus1.plan sh).acts = [.rd 0x0F 1] ∧ (Op.getIntStatus2.plan sh).acts = [.rd 0x10 1] ∧
    (Op.getFifoLen.plan sh).acts = [.rd 0x12 2] ∧ (Op.getStepCount.plan sh).acts = [.rd 0x15 3] ∧
    (Op.getStepActivity.plan sh).acts = [.rd 0x18 1] ∧ (Op.getRawTemp.plan sh).acts = [.rd 0x11 1] ∧
    (Op.getTempCelsius.plan sh).acts = [.rd 0x11 1] ∧
    (∀ n, has (sh 0x29) R.fpwr_READ_DISABLE = false → ((Op.readFifo n).plan sh).acts = [.rd 0x14 n]) := by
  refine ⟨rfl, rfl, rfl, rfl, rfl, rfl, rfl, rfl, rfl, rfl, rfl, rfl, rfl, rfl, rfl, ?_⟩
  intro n h
  simp [Op.plan, h]

/-- non-vacuity: a concrete program with a fault in the middle -/
example : C12 0x14 (exec (.i2c 0x14) (fun i => i == 2) { chip := Chip.powerOn (fun _ => 0x90#8) [] [] [], shadow := shadowDefault }
    [.wr 0x19 0x02#8 .commit, .rd 0x04 6, .wr 0x1A 0x09#8 .commit, .rd 0x00 1] []).1 := by decide

end Thm
end Bma400
