/-
  C19 - FIFO reads are refused exactly while the read circuit is powered down.

  `C19_refused` / `C19_read_i2c`, `C19_read_spi`: for EVERY recorded configuration, buffer length n, transport
  and fault schedule: if bit 0 of the recorded FIFO_PWR_CONFIG (0x29) is set,
  `read_fifo_frames` returns FifoReadWhilePwrDisable with an empty journal and unchanged
  state; otherwise (fault-free) its journal is exactly one burst read of n bytes at 0x14,
  over I2C and over SPI, and it returns Ok.
  `C19_guard_is_device`: with the coherence invariant (Thm/C16: all histories, including
  calls cut short by bus errors - the FIFO builder writes 0x29 last and records it only when
  acknowledged) the guard is bit 0 of the DEVICE register, i.e. what the most recent
  successfully applied FIFO configuration left there; `C19_P` packages both in the form
  `P.C19` evaluated by `judge`.  `C19_commands`: flush / clear-steps send 0xB0 / 0xB1 to
  0x7E.  `C19_reset`: after a soft reset reading is enabled again.
-/
import Bma400.Lemmas.Step
namespace Bma400
namespace Thm
open P R

theorem C19_refused (t : Transport) (fails : Nat → Bool) (w : World) (n : Nat)
    (h : has (w.shadow 0x29) 0x01#8 = true) :
    runOp t fails w (.readFifo n) = ([], { w with idx := 0 }, .err (.cfg .fifoPwr)) :=
  runOp_refused t fails w _ _ (by simp [Op.plan, fpwr_READ_DISABLE, h])

theorem C19_plan (sh : Regs) (n : Nat) (h : has (sh 0x29) 0x01#8 = false) :
    (Op.readFifo n).plan sh = ⟨none, [.rd 0x14 n]⟩ := by
  simp [Op.plan, fpwr_READ_DISABLE, h]

/-- fault-free, guard clear: exactly one burst of n bytes at 0x14, result Ok - I2C -/
theorem C19_read_i2c (dev : Nat) (w : World) (n : Nat) (h : has (w.shadow 0x29) 0x01#8 = false) :
    decodeI2c dev (runOp (.i2c dev) noFaults w (.readFifo n)).1 = some [.rd 0x14 n true] ∧
    (runOp (.i2c dev) noFaults w (.readFifo n)).2.2.isOk = true := by
  simp [runOp, C19_plan _ n h, exec, readRegister_i2c, decodeI2c, Op.finish, finishOutcome, Outcome.isOk]

theorem C19_read_spi (w : World) (n : Nat) (h : has (w.shadow 0x29) 0x01#8 = false) :
    decodeSpi (runOp .spi noFaults w (.readFifo n)).1 = some [.rd 0x14 n true] ∧
    (runOp .spi noFaults w (.readFifo n)).2.2.isOk = true := by
  simp [runOp, C19_plan _ n h, exec, readRegister_spi, decodeSpi, Op.finish, finishOutcome, Outcome.isOk]

theorem C19_guard_is_device (sh chip : Regs) (hco : Coherent sh chip) :
    has (sh 0x29) 0x01#8 = has (chip 0x29) 0x01#8 := by
  rw [hco 0x29 (by decide)]

/-- `P.C19` for a FIFO read over I2C from a coherent state (any n) -/
theorem C19_P (dev : Nat) (w : World) (n : Nat) (hco : Coherent w.shadow w.chip.regs) :
    ∃ accs, decodeI2c dev (runOp (.i2c dev) noFaults w (.readFifo n)).1 = some accs ∧
      P.C19 w.chip.regs (.readFifo n) accs (runOp (.i2c dev) noFaults w (.readFifo n)).2.2 := by
  cases hg : has (w.shadow 0x29) 0x01#8 with
  | true =>
    rw [C19_refused _ _ _ _ hg]
    refine ⟨[], by simp [decodeI2c], ?_⟩
    simp [P.C19, ← C19_guard_is_device _ _ hco, hg]
  | false =>
    obtain ⟨h1, h2⟩ := C19_read_i2c dev w n hg
    refine ⟨_, h1, ?_⟩
    simp [P.C19, ← C19_guard_is_device _ _ hco, hg, h2]

theorem C19_commands (sh : Regs) :
    Op.flushFifo.plan sh = ⟨none, [.wr 0x7E 0xB0#8 .none]⟩ ∧
    Op.clearStepCount.plan sh = ⟨none, [.wr 0x7E 0xB1#8 .none]⟩ ∧
    DS.CMD = 0x7E ∧ DS.CMD_FIFO_FLUSH = 0xB0#8 ∧ DS.CMD_STEP_CNT_CLEAR = 0xB1#8 := ⟨rfl, rfl, rfl, rfl, rfl⟩

theorem C19_reset : has (shadowDefault 0x29) 0x01#8 = false ∧ has (DS.resetVal 0x29) 0x01#8 = false := by decide

/-- the FIFO builder writes the power flag last -/
example : (match (Request.fifo [.readDisabled true, .watermark 5]).script shadowDefault with
    | .ok ws => ws == [⟨0x27, 5#8⟩, ⟨0x29, 1#8⟩] | .error _ => false) = true := by decide

/-- a FIFO burst that fails (any schedule in which the first raw operation of the call fails) is ONE
    attempted burst and the call returns that failure; nothing else is attempted - I2C.  This is the
    clause `judge` evaluates on faulted FIFO reads (a silent retry is two bursts and Ok). -/
theorem C19_faulted_i2c (dev : Nat) (fails : Nat → Bool) (w : World) (n : Nat)
    (h : has (w.shadow 0x29) 0x01#8 = false) (hf : fails 0 = true) :
    (runOp (.i2c dev) fails w (.readFifo n)).1 = [⟨.i2cWriteRead dev [0x14#8] n, false⟩] ∧
    (runOp (.i2c dev) fails w (.readFifo n)).2.2 = .err (.io 0) := by
  simp [runOp, C19_plan _ n h, exec, readRegister, World.raw, hf]

theorem C19_faulted_cmd_i2c (dev : Nat) (fails : Nat → Bool) (w : World) (hf : fails 0 = true) :
    (runOp (.i2c dev) fails w .flushFifo).1 = [⟨.i2cWrite dev [0x7E#8, 0xB0#8], false⟩] ∧
    (runOp (.i2c dev) fails w .flushFifo).2.2 = .err (.io 0) ∧
    (runOp (.i2c dev) fails w .clearStepCount).1 = [⟨.i2cWrite dev [0x7E#8, 0xB1#8], false⟩] ∧
    (runOp (.i2c dev) fails w .clearStepCount).2.2 = .err (.io 0) := by
  simp [runOp, Op.plan, exec, writeRegister, World.raw, hf, cmd_FlushFifo, cmd_ClearStepCount]

end Thm
end Bma400
