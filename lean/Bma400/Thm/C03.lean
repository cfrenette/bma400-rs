/-
  C03 - acceleration readings are sign-extended 12-bit samples scaled by the set range.

  `C03_decode`   for ALL 65 536 (lsb, msb) pairs `Measurement::to_i16` is the two's-complement
                 12-bit value of lsb and the low nibble of msb (the high nibble is ignored);
  `C03_scale`    `<< shift` is multiplication by 1/2/4/8 for every 12-bit value (no i16
                 overflow, so no debug-build panic either);
  `C03_plan`     both getters are exactly one 6-byte burst read at 0x04;
  `C03_unscaled`, `C03_scaled`  the returned numbers for every 6 data bytes; the scaled
                 getter uses the range of the *device* whenever the recorded ACC_CONFIG1
                 equals the device's (coherence, an invariant of all histories: Thm/C16);
  `C03_after_reset` 4g after power-on / soft reset.
-/
import Bma400.Props
namespace Bma400
namespace Thm
open P

/-! ### 12-bit two's complement: `i16::from_le_bytes([lsb, sign-extended nibble])`

  Both `Measurement::to_i16` and `Frame::data_at_offset` build an `i16` from a low byte and a
  nibble that they sign-extend to a byte by `if m >> 3 == 0 { m } else { m | 0xF0 }`. -/

theorem sext12_eq {n : Nat} (c : Int) (h1 : -2048 ≤ c ∧ c ≤ 2047) (h2 : (n : Int) = c % 4096) : DS.sext12 n = c := by
  unfold DS.sext12
  split <;> omega

theorem sext8_eq {n : Nat} (c : Int) (h1 : -128 ≤ c ∧ c ≤ 127) (h2 : (n : Int) = c % 256) : DS.sext8 n = c := by
  unfold DS.sext8
  split <;> omega

theorem sx_toNat : ∀ m : Byte, m.toNat < 16 →
    (if m >>> 3 == 0#8 then m else m ||| 0xF0#8).toNat = if m.toNat < 8 then m.toNat else m.toNat + 240 := by
  decide +kernel

/-- the pair is the 12-bit two's complement value `lsb + 256 * m` -/
theorem i16le_sx {lsb m : Byte} (hm : m.toNat < 16) :
    T.i16le lsb (if m >>> 3 == 0#8 then m else m ||| 0xF0#8) = DS.sext12 (lsb.toNat + 256 * m.toNat) := by
  simp only [T.i16le, DS.sext12, sx_toNat m hm]
  split <;> split <;> omega

theorem and0F (b : Byte) : (b &&& 0x0F#8).toNat = b.toNat % 16 := by
  rw [BitVec.toNat_and]; exact Nat.and_two_pow_sub_one_eq_mod _ 4

theorem C03_decode (lsb msb : Byte) : T.toI16 lsb msb = accel12 lsb msb := by
  rw [T.toI16, i16le_sx (by rw [and0F]; omega), and0F, accel12]

theorem accel12_range (lsb msb : Byte) : -2048 ≤ accel12 lsb msb ∧ accel12 lsb msb ≤ 2047 := by
  simp only [accel12, DS.sext12]
  split <;> omega

/-- an `i16` computation that does not overflow is exact -/
theorem wrap16 (n : Int) (h : -32768 ≤ n ∧ n < 32768) :
    (if (n % 65536).toNat < 32768 then ((n % 65536).toNat : Int) else ((n % 65536).toNat : Int) - 65536) = n := by
  split <;> omega

/-- shifting a 12-bit value by the range shift is exact multiplication -/
theorem C03_scale (s : Scale) (v : Int) (h : -2048 ≤ v ∧ v ≤ 2047) :
    T.shlI16 v (T.scaleShift s) = 2 ^ (T.scaleShift s) * v := by
  rw [T.shlI16, wrap16 _ (by cases s <;> simp only [T.scaleShift] <;> omega), Int.mul_comm]
  rfl

theorem range_code : ∀ b : Byte,
    (2 : Int) ^ ((b &&& 0xC0#8) >>> 6).toNat = 2 ^ T.scaleShift (R.acc1_scale b) := by decide +kernel

theorem C03_plan (sh : Regs) :
    Op.getUnscaled.plan sh = ⟨none, [.rd 0x04 6]⟩ ∧ Op.getData.plan sh = ⟨none, [.rd 0x04 6]⟩ :=
  ⟨rfl, rfl⟩

/-- `from_bytes_unscaled` on (at least) six bytes: three 12-bit samples -/
theorem fromBytesUnscaled_cons (b0 b1 b2 b3 b4 b5 : Byte) (rest : List Byte) :
    T.fromBytesUnscaled (b0 :: b1 :: b2 :: b3 :: b4 :: b5 :: rest)
      = some (accel12 b0 b1, accel12 b2 b3, accel12 b4 b5) := by
  simp only [T.fromBytesUnscaled, C03_decode]; rfl

theorem C03_unscaled (sh : Regs) (b0 b1 b2 b3 b4 b5 : Byte) :
    Op.getUnscaled.ints sh [[b0, b1, b2, b3, b4, b5]] = some (expectUnscaledI [b0, b1, b2, b3, b4, b5]) := by
  simp only [Op.ints, List.getElem?_cons_zero, Option.bind_eq_bind, Option.bind_some, fromBytesUnscaled_cons]; rfl

/-- `chip` are the device registers; the hypothesis is coherence on ACC_CONFIG1 -/
theorem C03_scaled (sh chip : Regs) (hc : sh 0x1A = chip 0x1A) (b0 b1 b2 b3 b4 b5 : Byte) :
    Op.getData.ints sh [[b0, b1, b2, b3, b4, b5]] = some (expectScaledI chip [b0, b1, b2, b3, b4, b5]) := by
  have hr : rangeFactor chip = 2 ^ T.scaleShift (R.acc1_scale (chip 0x1A)) := range_code _
  simp only [Op.ints, List.getElem?_cons_zero, Option.bind_eq_bind, Option.bind_some, T.fromBytesScaled,
    fromBytesUnscaled_cons, expectScaledI, hr, C03_scale _ _ (accel12_range _ _), hc]; rfl

/-- the values are the documented multiples: 1, 2, 4, 8 for 2g, 4g, 8g, 16g -/
theorem C03_factors : ∀ b : Byte, (2 : Int) ^ ((b &&& 0xC0#8) >>> 6).toNat =
    match (b.toNat / 64) with | 0 => 1 | 1 => 2 | 2 => 4 | _ => 8 := by decide +kernel

/-- 4g after power-on or soft reset -/
theorem C03_after_reset : R.acc1_scale (shadowDefault 0x1A) = .r4g ∧ rangeFactor DS.resetVal = 2 := by
  decide

/-- non-vacuity: -2047 at 8g -/
example : Op.getData.ints (shadowDefault.set 0x1A 0x89#8) [[0x01#8, 0xF8#8, 0, 0, 0xFF#8, 0x07#8]]
    = some [-8188, 0, 8188] := by decide

end Thm
end Bma400
