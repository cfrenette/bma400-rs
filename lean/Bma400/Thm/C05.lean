/-
  C05 - FIFO iteration is panic-free, in-bounds and terminating on arbitrary bytes.

  For EVERY buffer (a `List Byte` of any length and content, including malformed, unknown
  or truncated headers) and every iterator position:
  `C05_progress`   a call of `next` inside the buffer advances the cursor by at least one byte
                   (so indexing `bytes[header_idx]` is guarded and the cursor never overflows);
  `C05_none_after` once the cursor is at or past the end, `next` returns None and does not move;
  `C05_frame`      a yielded frame starts at the old cursor, ends at the new one, lies inside the
                   buffer and is exactly one header byte plus the payload length implied by
                   that header;
  `C05_order`      a frame yielded from a cursor at or behind the end of an earlier frame starts at or
                   after that end (that later calls have such a cursor is `next_mono`, one step at a time);
  `C05_termination` after `len` calls the cursor is at or past the end: every call from the
                   (len+1)-th on returns None - iteration ends within len+1 calls;
  `C05_accessors`  on a yielded frame EVERY accessor (frame_type, x, y, z, time and the three
                   control flags) only evaluates indices inside the frame: `Frame.view` is
                   `some` - the Rust code cannot panic on any yielded frame.
-/
import Bma400.Fifo
namespace Bma400
namespace Thm
open T

/-- a frame is 2 to 7 bytes long, whatever the header byte -/
theorem payload_bounds : ∀ h : Byte, 1 ≤ numPayloadBytes h ∧ numPayloadBytes h ≤ 6 := by decide +kernel

theorem payload_ge_one : ∀ h : Byte, numPayloadBytes h ≥ 1 := fun h => (payload_bounds h).1

theorem payload_pos : ∀ h : Byte, numPayloadBytes h ≥ 1 ∨ (frameType h = .data ∧ hasData h = true ∧ numPayloadBytes h ≥ 1) :=
  fun h => .inl (payload_ge_one h)

theorem C05_none_after (buf : List Byte) (it : Iter) (h : it.index ≥ buf.length) :
    next buf it = (none, it) := by
  unfold next; simp [h]

/-- `next` inside the buffer, read off the byte under the cursor: the empty-data marker ends the
    iteration two bytes on, a frame that does not fit ends it past the end, any other frame is
    yielded with the cursor behind it -/
theorem next_eq (buf : List Byte) (i : Nat) (b : Byte) (h : buf[i]? = some b) :
    next buf ⟨i⟩ =
      if frameType (hdr b) == .data && !hasData (hdr b) then (none, ⟨i + 2⟩)
      else if i + numPayloadBytes (hdr b) + 1 > buf.length then (none, ⟨i + numPayloadBytes (hdr b) + 1⟩)
      else (some ⟨i, i + numPayloadBytes (hdr b) + 1⟩, ⟨i + numPayloadBytes (hdr b) + 1⟩) := by
  have hlt : ¬ i ≥ buf.length := Nat.not_le.mpr (List.getElem?_eq_some_iff.mp h).1
  simp only [next, hlt, if_false, h]

theorem C05_progress (buf : List Byte) (it : Iter) (h : it.index < buf.length) :
    (next buf it).2.index ≥ it.index + 1 := by
  rw [next_eq buf it.index _ (List.getElem?_eq_getElem h)]
  split
  · simp
  · split <;> simp <;> omega

theorem C05_frame (buf : List Byte) (it it' : Iter) (f : Frame) (h : next buf it = (some f, it')) :
    f.start = it.index ∧ f.stop = it'.index ∧ f.stop ≤ buf.length ∧ f.start < f.stop ∧
    ∃ b, buf[f.start]? = some b ∧ f.stop - f.start = 1 + numPayloadBytes (hdr b) := by
  by_cases hi : it.index < buf.length
  · have hb := List.getElem?_eq_getElem hi
    rw [next_eq buf it.index _ hb] at h
    split at h
    · cases h
    · split at h
      · cases h
      · cases h
        refine ⟨rfl, rfl, ?_, ?_, _, hb, ?_⟩ <;> simp only <;> omega
  · rw [C05_none_after buf it (by omega)] at h
    cases h

theorem next_mono (buf : List Byte) (it : Iter) : (next buf it).2.index ≥ it.index := by
  by_cases h : it.index < buf.length
  · have := C05_progress buf it h; omega
  · rw [C05_none_after buf it (by omega)]; simp

/-- a frame yielded by a later call starts at or after the end of an earlier one -/
theorem C05_order (buf : List Byte) (it1 it2 it2' : Iter) (f1 f2 : Frame) (it1' : Iter)
    (h1 : next buf it1 = (some f1, it1')) (hle : it1'.index ≤ it2.index) (h2 : next buf it2 = (some f2, it2')) :
    f1.stop ≤ f2.start := by
  have a := C05_frame buf it1 it1' f1 h1
  have b := C05_frame buf it2 it2' f2 h2
  omega

def cursorAfter (buf : List Byte) (it : Iter) : Nat → Iter
  | 0 => it
  | n + 1 => cursorAfter buf (next buf it).2 n

theorem cursor_progress (buf : List Byte) (n : Nat) : ∀ it : Iter,
    (cursorAfter buf it n).index ≥ min (it.index + n) buf.length := by
  induction n with
  | zero => exact fun it => Nat.min_le_left ..
  | succ n ih =>
    intro it
    simp only [cursorAfter]
    have := ih (next buf it).2
    by_cases h : it.index < buf.length
    · have := C05_progress buf it h; omega
    · have := next_mono buf it; omega

/-- iteration ends within len+1 calls: after len calls every further call returns None -/
theorem C05_termination (buf : List Byte) (it : Iter) (n : Nat) (hn : n ≥ buf.length) :
    (next buf (cursorAfter buf it n)).1 = none := by
  have := cursor_progress buf n it
  rw [C05_none_after buf _ (by omega)]

theorem callN_cursor (buf : List Byte) (n : Nat) : ∀ it, (callN buf it n).2 = cursorAfter buf it n := by
  induction n with
  | zero => intro it; rfl
  | succ n ih => intro it; simp only [callN, cursorAfter]; exact ih _

/-- `Frame.x`, `.y` and `.z` are one accessor: `has` tells from the header whether the axis is
    there, `off` how many samples precede it -/
def axisAcc (has : Byte → Bool) (off : Byte → Nat) (buf : List Byte) (f : Frame) : Option (Option Int) :=
  (f.at buf 0).bind fun b =>
    if T.frameType (hdr b) != .data || !has (hdr b) then some none
    else (f.dataAtOffset buf (off (hdr b)) (resolutionIs12bit (hdr b))).map some

def offY (h : Byte) : Nat := if hasX h then 1 else 0
def offZ (h : Byte) : Nat := (if hasX h then 1 else 0) + (if hasY h then 1 else 0)

theorem x_eq_axisAcc : Frame.x = axisAcc hasX (fun _ => 0) := rfl
theorem y_eq_axisAcc : Frame.y = axisAcc hasY offY := rfl
theorem z_eq_axisAcc : Frame.z = axisAcc hasZ offZ := rfl

/-- the last payload index `dataAtOffset` reads for the sample at offset `off` -/
def lastRead (r : Bool) (off : Nat) : Nat := if r then off * 2 + 2 else off + 1

/-- what each accessor needs of the payload length, for every header byte -/
theorem header_facts : ∀ h : Byte,
    (frameType h = .time → numPayloadBytes h = 3) ∧
    (frameType h = .control → numPayloadBytes h = 1) ∧
    (hasX h = true → lastRead (resolutionIs12bit h) 0 ≤ numPayloadBytes h) ∧
    (hasY h = true → lastRead (resolutionIs12bit h) (offY h) ≤ numPayloadBytes h) ∧
    (hasZ h = true → lastRead (resolutionIs12bit h) (offZ h) ≤ numPayloadBytes h) := by
  decide +kernel

/-- a frame as `next` yields them -/
structure Yielded (buf : List Byte) (f : Frame) (b : Byte) : Prop where
  inb : f.stop ≤ buf.length
  hb : buf[f.start]? = some b
  len : f.stop - f.start = 1 + numPayloadBytes (hdr b)
  lt : f.start < f.stop

/-- header and payload are inside the buffer -/
theorem at_eq {buf : List Byte} {f : Frame} {b : Byte} (hy : Yielded buf f b) {i : Nat}
    (hi : i ≤ numPayloadBytes (hdr b)) : f.at buf i = some (buf.getD (f.start + i) 0#8) := by
  have := hy.len
  have := hy.inb
  simp [Frame.at, show f.start + i < f.stop by omega, show f.start + i < buf.length by omega]

theorem at_zero {buf : List Byte} {f : Frame} {b : Byte} (hy : Yielded buf f b) : f.at buf 0 = some b := by
  have := hy.lt
  simp [Frame.at, this, hy.hb]

theorem frameType_eq {buf : List Byte} {f : Frame} {b : Byte} (h0 : f.at buf 0 = some b) :
    f.frameType buf = some (frameType (hdr b)) := by
  simp only [Frame.frameType, h0, Option.bind_eq_bind, Option.bind_some]; rfl

theorem time_eq_none {buf : List Byte} {f : Frame} {b : Byte} (h0 : f.at buf 0 = some b)
    (h : frameType (hdr b) ≠ .time) : f.time buf = some none := by
  simp [Frame.time, frameType_eq h0, h]

theorem ctrlBit_eq_none {buf : List Byte} {f : Frame} {b : Byte} (h0 : f.at buf 0 = some b)
    (h : frameType (hdr b) ≠ .control) (m : Byte) : f.ctrlBit buf m = some none := by
  simp [Frame.ctrlBit, frameType_eq h0, h]

theorem dataAtOffset_some {buf : List Byte} {f : Frame} {b : Byte} (hy : Yielded buf f b) {off : Nat} {r : Bool}
    (h : lastRead r off ≤ numPayloadBytes (hdr b)) : (f.dataAtOffset buf off r).isSome = true := by
  cases r <;> simp only [lastRead, if_true, Bool.false_eq_true, if_false] at h <;>
    simp (disch := omega) only [Frame.dataAtOffset, if_true, Bool.false_eq_true, if_false, at_eq hy, Option.bind_eq_bind,
      Option.bind_some, Option.pure_def, Option.isSome_some]

theorem axisAcc_isSome (has : Byte → Bool) (off : Byte → Nat) {buf : List Byte} {f : Frame} {b : Byte}
    (hy : Yielded buf f b)
    (h : has (hdr b) = true → lastRead (resolutionIs12bit (hdr b)) (off (hdr b)) ≤ numPayloadBytes (hdr b)) :
    (axisAcc has off buf f).isSome = true := by
  simp only [axisAcc, at_zero hy, Option.bind_some]
  split
  · rfl
  · rename_i hc
    rw [Option.isSome_map]
    exact dataAtOffset_some hy (h (by simp at hc; exact hc.2))

theorem bind_isSome {α β : Type} {o : Option α} {g : α → Option β} (ho : o.isSome = true)
    (hg : ∀ a, (g a).isSome = true) : (o.bind g).isSome = true := by
  obtain ⟨a, rfl⟩ := Option.isSome_iff_exists.mp ho
  exact hg a

theorem C05_accessors (buf : List Byte) (f : Frame) (b : Byte) (hy : Yielded buf f b) :
    (f.view buf).isSome = true := by
  obtain ⟨ht, hc, hx, hyy, hz⟩ := header_facts (hdr b)
  have e_ft := frameType_eq (at_zero hy)
  have e_t : (f.time buf).isSome = true := by
    simp only [Frame.time, e_ft, Option.bind_eq_bind, Option.bind_some]
    split
    · rfl
    · rename_i h
      have := ht (by simpa using h)
      simp (disch := omega) only [at_eq hy, Option.bind_some, Option.pure_def, Option.isSome_some]
  have e_c : ∀ m, (f.ctrlBit buf m).isSome = true := by
    intro m
    simp only [Frame.ctrlBit, e_ft, Option.bind_eq_bind, Option.bind_some]
    split
    · rfl
    · rename_i h
      have := hc (by simpa using h)
      simp (disch := omega) only [at_eq hy, Option.bind_some, Option.pure_def, Option.isSome_some]
  exact bind_isSome (e_ft ▸ rfl) fun _ => bind_isSome (axisAcc_isSome hasX (fun _ => 0) hy hx) fun _ =>
    bind_isSome (axisAcc_isSome hasY offY hy hyy) fun _ => bind_isSome (axisAcc_isSome hasZ offZ hy hz) fun _ =>
    bind_isSome e_t fun _ => bind_isSome (e_c _) fun _ => bind_isSome (e_c _) fun _ => bind_isSome (e_c _) fun _ => rfl

/-- C05, all together, for one call of `next` on any buffer at any position -/
theorem C05 (buf : List Byte) (it : Iter) :
    (next buf it).2.index ≥ it.index ∧
    (it.index < buf.length → (next buf it).2.index ≥ it.index + 1) ∧
    (∀ f, (next buf it).1 = some f →
      f.start = it.index ∧ f.stop = (next buf it).2.index ∧ f.stop ≤ buf.length ∧ f.start < f.stop ∧
      (∃ b, buf[f.start]? = some b ∧ f.stop - f.start = 1 + numPayloadBytes (hdr b)) ∧
      (f.view buf).isSome = true) := by
  refine ⟨next_mono buf it, C05_progress buf it, fun f hf => ?_⟩
  have h : next buf it = (some f, (next buf it).2) := by rw [← hf]
  obtain ⟨h1, h2, h3, h4, b, h5, h6⟩ := C05_frame buf it _ f h
  exact ⟨h1, h2, h3, h4, ⟨b, h5, h6⟩, C05_accessors buf f b ⟨h3, h5, h6, h4⟩⟩

/-- non-vacuity: a malformed control header with axis-like bits, an unknown time-like header
    and a truncated data frame -/
example : (frames [0x46#8, 0xFF#8, 0xE0#8, 1, 2, 3, 0x9E#8, 1, 2]).length = 2 := by decide

end Thm
end Bma400
