/-
  Setters - the `with_*` SETTER methods of the eleven builders that take bools / plain enums (66, the
  generic builder's counted once per interrupt; the numeric ones - clamps, 12/16-bit values split over
  two registers - and `with_int1_cfg` / `with_int2_cfg`, whose enum carries a payload, are tied by the
  differential check with exhaustive argument streams), TRANSLATED from src/config/*.rs on every run
  (tools/gen_builders.py --setters -> Bma400/GeneratedSet.lean: symbolic execution of the setter
  body on the builder's copy, enum arguments enumerated), ARE the model's `XSetter.apply`: which
  register a setter touches, through which encoder, with which substitute for an unsupported data
  source, for every content of the copy.  `sh` is the recorded configuration: no setter reads it
  (a setter that builds on the device's record instead of the pending copy changes the translated
  term) or changes it.

  With Thm/Encoders (the encoders themselves), Thm/Builders (what write() sends) this makes
  `Request.target` for bool / enum setter lists a statement about the current source.
  The statements are printed by `tools/gen_builders.py <src> <out> --setters-theorems`.
-/
import Bma400.GeneratedSet
namespace Bma400
namespace Thm
open Generated

macro "setter_tac" d:ident : tactic =>
  `(tactic| (simp only [AccSetter.apply, IntSetter.apply, PinSetter.apply, FifoSetter.apply, AlpSetter.apply,
      AwkSetter.apply, WkupSetter.apply, OriSetter.apply, GenSetter.apply, ActSetter.apply, TapSetter.apply,
      upd_eq_set, map12, map3, matchMapped, fifoSrc, fifoSrc?, oriSrc, oriSrc?, genSrc, genSrc?,
      actSrc, actSrc?, GenId.base, $d:ident] <;> (try rfl) <;>
     (funext a; simp [Regs.set, flag, clr, uni, Option.get, Option.getD] <;> (try (repeat' split)) <;> simp_all)))
macro "setter_cases" v:ident d:ident : tactic => `(tactic| (cases $v:ident <;> setter_tac $d))

/- Every proof below is checked as a task of its own, and the `simp only` of `setter_tac` asks for the
   equation lemmas of all of these functions: generated here once, they are not generated again in
   each of the 66 tasks. -/
attribute [local simp] AccSetter.apply IntSetter.apply PinSetter.apply FifoSetter.apply AlpSetter.apply
  AwkSetter.apply WkupSetter.apply OriSetter.apply GenSetter.apply ActSetter.apply TapSetter.apply
  map12 map3 matchMapped fifoSrc fifoSrc? oriSrc oriSrc? genSrc genSrc? actSrc actSrc? GenId.base

theorem set_acc_with_power_mode (sh r : Regs)  (v) :
    AccSetter.apply r (.powerMode v) = Set.acc_with_power_mode sh r v := by
  setter_cases v Set.acc_with_power_mode
theorem set_acc_with_osr_lp (sh r : Regs)  (v) :
    AccSetter.apply r (.osrLp v) = Set.acc_with_osr_lp sh r v := by
  setter_cases v Set.acc_with_osr_lp
theorem set_acc_with_filt1_bw (sh r : Regs)  (v) :
    AccSetter.apply r (.filt1Bw v) = Set.acc_with_filt1_bw sh r v := by
  setter_cases v Set.acc_with_filt1_bw
theorem set_acc_with_odr (sh r : Regs)  (v) :
    AccSetter.apply r (.odr v) = Set.acc_with_odr sh r v := by
  setter_cases v Set.acc_with_odr
theorem set_acc_with_osr (sh r : Regs)  (v) :
    AccSetter.apply r (.osr v) = Set.acc_with_osr sh r v := by
  setter_cases v Set.acc_with_osr
theorem set_acc_with_scale (sh r : Regs)  (v) :
    AccSetter.apply r (.scale v) = Set.acc_with_scale sh r v := by
  setter_cases v Set.acc_with_scale
theorem set_acc_with_reg_dta_src (sh r : Regs)  (v) :
    AccSetter.apply r (.regDtaSrc v) = Set.acc_with_reg_dta_src sh r v := by
  setter_cases v Set.acc_with_reg_dta_src
theorem set_int_with_dta_rdy_int (sh r : Regs) (x0 : Bool) :
    IntSetter.apply r (.dtaRdy x0) = Set.int_with_dta_rdy_int sh r x0 := by
  setter_tac Set.int_with_dta_rdy_int
theorem set_int_with_fwm_int (sh r : Regs) (x0 : Bool) :
    IntSetter.apply r (.fwm x0) = Set.int_with_fwm_int sh r x0 := by
  setter_tac Set.int_with_fwm_int
theorem set_int_with_ffull_int (sh r : Regs) (x0 : Bool) :
    IntSetter.apply r (.ffull x0) = Set.int_with_ffull_int sh r x0 := by
  setter_tac Set.int_with_ffull_int
theorem set_int_with_gen2_int (sh r : Regs) (x0 : Bool) :
    IntSetter.apply r (.gen2 x0) = Set.int_with_gen2_int sh r x0 := by
  setter_tac Set.int_with_gen2_int
theorem set_int_with_gen1_int (sh r : Regs) (x0 : Bool) :
    IntSetter.apply r (.gen1 x0) = Set.int_with_gen1_int sh r x0 := by
  setter_tac Set.int_with_gen1_int
theorem set_int_with_orientch_int (sh r : Regs) (x0 : Bool) :
    IntSetter.apply r (.orientch x0) = Set.int_with_orientch_int sh r x0 := by
  setter_tac Set.int_with_orientch_int
theorem set_int_with_latch_int (sh r : Regs) (x0 : Bool) :
    IntSetter.apply r (.latch x0) = Set.int_with_latch_int sh r x0 := by
  setter_tac Set.int_with_latch_int
theorem set_int_with_actch_int (sh r : Regs) (x0 : Bool) :
    IntSetter.apply r (.actch x0) = Set.int_with_actch_int sh r x0 := by
  setter_tac Set.int_with_actch_int
theorem set_int_with_d_tap_int (sh r : Regs) (x0 : Bool) :
    IntSetter.apply r (.dTap x0) = Set.int_with_d_tap_int sh r x0 := by
  setter_tac Set.int_with_d_tap_int
theorem set_int_with_s_tap_int (sh r : Regs) (x0 : Bool) :
    IntSetter.apply r (.sTap x0) = Set.int_with_s_tap_int sh r x0 := by
  setter_tac Set.int_with_s_tap_int
theorem set_int_with_step_int (sh r : Regs) (x0 : Bool) :
    IntSetter.apply r (.step x0) = Set.int_with_step_int sh r x0 := by
  setter_tac Set.int_with_step_int
theorem set_pin_with_drdy (sh r : Regs)  (v) :
    PinSetter.apply r (.drdy v) = Set.pin_with_drdy sh r v := by
  setter_cases v Set.pin_with_drdy
theorem set_pin_with_fifo_wm (sh r : Regs)  (v) :
    PinSetter.apply r (.fifoWm v) = Set.pin_with_fifo_wm sh r v := by
  setter_cases v Set.pin_with_fifo_wm
theorem set_pin_with_ffull (sh r : Regs)  (v) :
    PinSetter.apply r (.ffull v) = Set.pin_with_ffull sh r v := by
  setter_cases v Set.pin_with_ffull
theorem set_pin_with_ieng_ovrrn (sh r : Regs)  (v) :
    PinSetter.apply r (.iengOvrrn v) = Set.pin_with_ieng_ovrrn sh r v := by
  setter_cases v Set.pin_with_ieng_ovrrn
theorem set_pin_with_gen2 (sh r : Regs)  (v) :
    PinSetter.apply r (.gen2 v) = Set.pin_with_gen2 sh r v := by
  setter_cases v Set.pin_with_gen2
theorem set_pin_with_gen1 (sh r : Regs)  (v) :
    PinSetter.apply r (.gen1 v) = Set.pin_with_gen1 sh r v := by
  setter_cases v Set.pin_with_gen1
theorem set_pin_with_orientch (sh r : Regs)  (v) :
    PinSetter.apply r (.orientch v) = Set.pin_with_orientch sh r v := by
  setter_cases v Set.pin_with_orientch
theorem set_pin_with_wkup (sh r : Regs)  (v) :
    PinSetter.apply r (.wkup v) = Set.pin_with_wkup sh r v := by
  setter_cases v Set.pin_with_wkup
theorem set_pin_with_actch (sh r : Regs)  (v) :
    PinSetter.apply r (.actch v) = Set.pin_with_actch sh r v := by
  setter_cases v Set.pin_with_actch
theorem set_pin_with_tap (sh r : Regs)  (v) :
    PinSetter.apply r (.tap v) = Set.pin_with_tap sh r v := by
  setter_cases v Set.pin_with_tap
theorem set_pin_with_step (sh r : Regs)  (v) :
    PinSetter.apply r (.step v) = Set.pin_with_step sh r v := by
  setter_cases v Set.pin_with_step
theorem set_fifo_with_read_disabled (sh r : Regs) (x0 : Bool) :
    FifoSetter.apply r (.readDisabled x0) = Set.fifo_with_read_disabled sh r x0 := by
  setter_tac Set.fifo_with_read_disabled
theorem set_fifo_with_axes (sh r : Regs) (x0 : Bool) (x1 : Bool) (x2 : Bool) :
    FifoSetter.apply r (.axes x0 x1 x2) = Set.fifo_with_axes sh r x0 x1 x2 := by
  setter_tac Set.fifo_with_axes
theorem set_fifo_with_8bit_mode (sh r : Regs) (x0 : Bool) :
    FifoSetter.apply r (.eightBit x0) = Set.fifo_with_8bit_mode sh r x0 := by
  setter_tac Set.fifo_with_8bit_mode
theorem set_fifo_with_src (sh r : Regs)  (v) :
    FifoSetter.apply r (.src v) = Set.fifo_with_src sh r v := by
  setter_cases v Set.fifo_with_src
theorem set_fifo_with_send_time_on_empty (sh r : Regs) (x0 : Bool) :
    FifoSetter.apply r (.sendTimeOnEmpty x0) = Set.fifo_with_send_time_on_empty sh r x0 := by
  setter_tac Set.fifo_with_send_time_on_empty
theorem set_fifo_with_stop_on_full (sh r : Regs) (x0 : Bool) :
    FifoSetter.apply r (.stopOnFull x0) = Set.fifo_with_stop_on_full sh r x0 := by
  setter_tac Set.fifo_with_stop_on_full
theorem set_fifo_with_auto_flush (sh r : Regs) (x0 : Bool) :
    FifoSetter.apply r (.autoFlush x0) = Set.fifo_with_auto_flush sh r x0 := by
  setter_tac Set.fifo_with_auto_flush
theorem set_alp_with_auto_lp_trigger (sh r : Regs)  (v) :
    AlpSetter.apply r (.trigger v) = Set.alp_with_auto_lp_trigger sh r v := by
  setter_cases v Set.alp_with_auto_lp_trigger
theorem set_alp_with_gen1_int_trigger (sh r : Regs) (x0 : Bool) :
    AlpSetter.apply r (.gen1Trig x0) = Set.alp_with_gen1_int_trigger sh r x0 := by
  setter_tac Set.alp_with_gen1_int_trigger
theorem set_alp_with_drdy_trigger (sh r : Regs) (x0 : Bool) :
    AlpSetter.apply r (.drdyTrig x0) = Set.alp_with_drdy_trigger sh r x0 := by
  setter_tac Set.alp_with_drdy_trigger
theorem set_awk_with_periodic_wakeup (sh r : Regs) (x0 : Bool) :
    AwkSetter.apply r (.periodic x0) = Set.awk_with_periodic_wakeup sh r x0 := by
  setter_tac Set.awk_with_periodic_wakeup
theorem set_awk_with_activity_int (sh r : Regs) (x0 : Bool) :
    AwkSetter.apply r (.activityInt x0) = Set.awk_with_activity_int sh r x0 := by
  setter_tac Set.awk_with_activity_int
theorem set_wkup_with_ref_mode (sh r : Regs)  (v) :
    WkupSetter.apply r (.refMode v) = Set.wkup_with_ref_mode sh r v := by
  setter_cases v Set.wkup_with_ref_mode
theorem set_wkup_with_axes (sh r : Regs) (x0 : Bool) (x1 : Bool) (x2 : Bool) :
    WkupSetter.apply r (.axes x0 x1 x2) = Set.wkup_with_axes sh r x0 x1 x2 := by
  setter_tac Set.wkup_with_axes
theorem set_ori_with_axes (sh r : Regs) (x0 : Bool) (x1 : Bool) (x2 : Bool) :
    OriSetter.apply r (.axes x0 x1 x2) = Set.ori_with_axes sh r x0 x1 x2 := by
  setter_tac Set.ori_with_axes
theorem set_ori_with_src (sh r : Regs)  (v) :
    OriSetter.apply r (.src v) = Set.ori_with_src sh r v := by
  setter_cases v Set.ori_with_src
theorem set_ori_with_ref_mode (sh r : Regs)  (v) :
    OriSetter.apply r (.refMode v) = Set.ori_with_ref_mode sh r v := by
  setter_cases v Set.ori_with_ref_mode
theorem set_gen1_with_axes (sh r : Regs) (x0 : Bool) (x1 : Bool) (x2 : Bool) :
    GenSetter.apply .g1 r (.axes x0 x1 x2) = Set.gen1_with_axes sh r x0 x1 x2 := by
  setter_tac Set.gen1_with_axes
theorem set_gen1_with_src (sh r : Regs)  (v) :
    GenSetter.apply .g1 r (.src v) = Set.gen1_with_src sh r v := by
  setter_cases v Set.gen1_with_src
theorem set_gen1_with_ref_mode (sh r : Regs)  (v) :
    GenSetter.apply .g1 r (.refMode v) = Set.gen1_with_ref_mode sh r v := by
  setter_cases v Set.gen1_with_ref_mode
theorem set_gen1_with_hysteresis (sh r : Regs)  (v) :
    GenSetter.apply .g1 r (.hysteresis v) = Set.gen1_with_hysteresis sh r v := by
  setter_cases v Set.gen1_with_hysteresis
theorem set_gen1_with_criterion_mode (sh r : Regs)  (v) :
    GenSetter.apply .g1 r (.criterion v) = Set.gen1_with_criterion_mode sh r v := by
  setter_cases v Set.gen1_with_criterion_mode
theorem set_gen1_with_logic_mode (sh r : Regs)  (v) :
    GenSetter.apply .g1 r (.logic v) = Set.gen1_with_logic_mode sh r v := by
  setter_cases v Set.gen1_with_logic_mode
theorem set_gen2_with_axes (sh r : Regs) (x0 : Bool) (x1 : Bool) (x2 : Bool) :
    GenSetter.apply .g2 r (.axes x0 x1 x2) = Set.gen2_with_axes sh r x0 x1 x2 := by
  setter_tac Set.gen2_with_axes
theorem set_gen2_with_src (sh r : Regs)  (v) :
    GenSetter.apply .g2 r (.src v) = Set.gen2_with_src sh r v := by
  setter_cases v Set.gen2_with_src
theorem set_gen2_with_ref_mode (sh r : Regs)  (v) :
    GenSetter.apply .g2 r (.refMode v) = Set.gen2_with_ref_mode sh r v := by
  setter_cases v Set.gen2_with_ref_mode
theorem set_gen2_with_hysteresis (sh r : Regs)  (v) :
    GenSetter.apply .g2 r (.hysteresis v) = Set.gen2_with_hysteresis sh r v := by
  setter_cases v Set.gen2_with_hysteresis
theorem set_gen2_with_criterion_mode (sh r : Regs)  (v) :
    GenSetter.apply .g2 r (.criterion v) = Set.gen2_with_criterion_mode sh r v := by
  setter_cases v Set.gen2_with_criterion_mode
theorem set_gen2_with_logic_mode (sh r : Regs)  (v) :
    GenSetter.apply .g2 r (.logic v) = Set.gen2_with_logic_mode sh r v := by
  setter_cases v Set.gen2_with_logic_mode
theorem set_act_with_axes (sh r : Regs) (x0 : Bool) (x1 : Bool) (x2 : Bool) :
    ActSetter.apply r (.axes x0 x1 x2) = Set.act_with_axes sh r x0 x1 x2 := by
  setter_tac Set.act_with_axes
theorem set_act_with_src (sh r : Regs)  (v) :
    ActSetter.apply r (.src v) = Set.act_with_src sh r v := by
  setter_cases v Set.act_with_src
theorem set_act_with_obs_period (sh r : Regs)  (v) :
    ActSetter.apply r (.obsPeriod v) = Set.act_with_obs_period sh r v := by
  setter_cases v Set.act_with_obs_period
theorem set_tap_with_axis (sh r : Regs)  (v) :
    TapSetter.apply r (.axis v) = Set.tap_with_axis sh r v := by
  setter_cases v Set.tap_with_axis
theorem set_tap_with_sensitivity (sh r : Regs)  (v) :
    TapSetter.apply r (.sensitivity v) = Set.tap_with_sensitivity sh r v := by
  setter_cases v Set.tap_with_sensitivity
theorem set_tap_with_min_duration_btn_taps (sh r : Regs)  (v) :
    TapSetter.apply r (.minDur v) = Set.tap_with_min_duration_btn_taps sh r v := by
  setter_cases v Set.tap_with_min_duration_btn_taps
theorem set_tap_with_max_double_tap_window (sh r : Regs)  (v) :
    TapSetter.apply r (.dtapDur v) = Set.tap_with_max_double_tap_window sh r v := by
  setter_cases v Set.tap_with_max_double_tap_window
theorem set_tap_with_max_tap_duration (sh r : Regs)  (v) :
    TapSetter.apply r (.maxDur v) = Set.tap_with_max_tap_duration sh r v := by
  setter_cases v Set.tap_with_max_tap_duration

end Thm
end Bma400
