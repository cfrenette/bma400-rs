/-
  C11 - after soft_reset the driver is indistinguishable from a freshly created one.

  `C11_plan`    soft_reset is: write the soft-reset command 0xB6 to 0x7E, then read the event
                register 0x0D (one byte) so that the reset flag is cleared - nothing else.
  `C11_state`   for EVERY prior driver state (any recorded configuration, coherent or not:
                any history, including calls and self tests aborted by bus errors), either
                transport and EVERY fault schedule: if soft_reset returns Ok the recorded
                configuration is exactly the default one (= the datasheet reset values,
                `defaults_eq_reset`).
  `C11_chip`    the acknowledged command puts every register from 0x19 up to its reset value.
  `C11_indist`  the model's driver state IS the recorded configuration (the transports are
                stateless, the raw-operation index restarts at every call), so for EVERY
                program of further API calls with every fault schedule the run after the
                reset equals, call by call - journal, outcome, device - the run of a driver
                whose recorded configuration is the default one, as a constructor leaves it, on
                the same chip (the constructor's own traffic is not part of the comparison: the
                3-wire one sets IF_CONF, which a reset clears and `soft_reset` does not set again).
-/
import Bma400.Lemmas.Step
namespace Bma400
namespace Thm

theorem C11_plan (sh : Regs) :
    Op.softReset.plan sh = ⟨none, [.wr 0x7E 0xB6#8 .reset, .rd 0x0D 1]⟩ ∧
    DS.CMD_SOFTRESET = 0xB6#8 ∧ DS.EVENT = 0x0D := ⟨rfl, rfl, rfl⟩

theorem C11_state (t : Transport) (fails : Nat → Bool) (w : World)
    (h : (runOp t fails w .softReset).2.2.isOk = true) :
    (runOp t fails w .softReset).2.1.shadow = shadowDefault := by
  refine runOp_cases (motive := fun r => r.2.2.isOk = true → r.2.1.shadow = shadowDefault) t fails w .softReset
    (fun _ _ h => by cases h) (fun _ r hr hok => ?_) h
  subst hr
  exact exec_ok_shadow t fails _ _ _ (isOk_callOutcome hok)

theorem C11_chip (c : Chip) : ∀ x, x ≥ 0x19 → (c.write 0x7E 0xB6#8).regs x = DS.resetVal x := by
  intro x hx
  simp [Chip.write, hx]

/-- a program: API calls, each with its own fault schedule -/
def runProg (t : Transport) : World → List (Op × (Nat → Bool)) → List (List JEntry × Outcome) × World
  | w, [] => ([], w)
  | w, (op, fails) :: rest =>
    let r := runOp t fails w op
    let (outs, w') := runProg t r.2.1 rest
    ((r.1, r.2.2) :: outs, w')

/-- a call only looks at the chip and the recorded configuration -/
theorem runOp_state (t : Transport) (fails : Nat → Bool) (w w' : World) (op : Op)
    (hc : w.chip = w'.chip) (hs : w.shadow = w'.shadow) : runOp t fails w op = runOp t fails w' op := by
  cases w; cases w'
  subst hc hs
  rfl

theorem C11_indist (t : Transport) (prog : List (Op × (Nat → Bool))) (w : World)
    (hreset : w.shadow = shadowDefault) :
    (runProg t w prog).1 = (runProg t { chip := w.chip, shadow := shadowDefault } prog).1 ∧
    (prog ≠ [] → (runProg t w prog).2 = (runProg t { chip := w.chip, shadow := shadowDefault } prog).2) := by
  cases prog with
  | nil => simp [runProg]
  | cons p rest =>
    obtain ⟨op, fails⟩ := p
    simp only [runProg]
    rw [runOp_state t fails w { chip := w.chip, shadow := shadowDefault } op rfl hreset]
    simp

end Thm
end Bma400
