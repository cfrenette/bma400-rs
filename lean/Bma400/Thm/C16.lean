/-
  C16 - a bus failure never leaves the driver with a false belief about the device.

  `Good t w`: the recorded configuration equals the device on every configuration register
  (`P.Coherent`) and, over SPI, chip-select is high and the chip has left its power-on I2C
  mode - i.e. the next access starts a fresh transaction.
  `C16_exec`: for EVERY list of well-formed bus actions (`ActOk`: a recorded write goes to a
  configuration register, an unrecorded one does not, the reset command resets), BOTH
  transports and EVERY fault schedule in which only data operations fail (any number, any
  positions; a failed operation is not applied by the chip), `Good` is preserved.  Hence it
  is an invariant of every history of API calls (`C16_runOp` with `plan_ok`), and every
  later accepted request satisfies C01 / C07 / C08 verbatim - they assume nothing else.
  In particular a needed write is never skipped: `C01_effect` says the device ends up
  holding the request, whatever happened before.
  Chip-select *pin* failures are not bus errors in the sense of the property (they are
  reported as ChipSelectPinError) and are excluded: after a failed release the chip sees
  every later byte as part of the old transaction, which no driver can repair.
-/
import Bma400.Lemmas.Refine
namespace Bma400
namespace Thm
open P

/-- recorded writes go to configuration registers, unrecorded ones do not touch them -/
def ActOk : Act → Prop
  | .wr a _ .commit => a ∈ DS.cfgAddrs
  | .wr a v .none => a ∉ DS.cfgAddrs ∧ ¬ (a = 0x7E ∧ v = 0xB6#8)
  | .wr a v .reset => a = 0x7E ∧ v = 0xB6#8
  | _ => True

theorem defaults_eq_reset : ∀ x ∈ DS.cfgAddrs, shadowDefault x = DS.resetVal x := by decide

theorem write_commit (c : Chip) (a : Nat) (v : Byte) (h : a ∈ DS.cfgAddrs) :
    c.write a v = { c with regs := c.regs.set a v } := by
  have := cfg_range a h
  unfold Chip.write
  rw [if_neg (by omega), if_neg (by omega)]

/-- on the configuration registers the device does to its content what the driver records -/
theorem write_cfg (c : Chip) (a : Nat) (v : Byte) (e : Eff) (hok : ActOk (.wr a v e)) :
    ∀ x ∈ DS.cfgAddrs, (c.write a v).regs x = applyEff c.regs a v e x := by
  intro x hx
  cases e with
  | commit => rw [write_commit c a v hok]; rfl
  | none =>
    have : x ≠ a := fun e => hok.1 (e ▸ hx)
    unfold Chip.write
    split
    · rw [if_neg (fun hv => hok.2 ⟨‹_›, hv⟩)]; rfl
    · split
      · rfl
      · exact Regs.set_other _ _ _ _ this
  | reset =>
    obtain ⟨rfl, rfl⟩ := hok
    simp [Chip.write, applyEff, (cfg_range x hx).1, defaults_eq_reset x hx]

theorem coherent_write (sh : Regs) (c : Chip) (a : Nat) (v : Byte) (e : Eff) (hok : ActOk (.wr a v e))
    (hco : Coherent sh c.regs) : Coherent (applyEff sh a v e) (c.write a v).regs := by
  intro x hx
  rw [write_cfg c a v e hok x hx]
  cases e <;> simp only [applyEff, Regs.set_apply, hco x hx]

def Good (t : Transport) (w : World) : Prop :=
  Coherent w.shadow w.chip.regs ∧ (t = .spi → w.chip.csHigh = true ∧ w.chip.spiMode = true)

theorem good_of_same {t : Transport} {w : World} {c : Chip} {sh : Regs} (h1 : Chip.Same w.chip c) (h2 : w.shadow = sh)
    (hco : Coherent sh c.regs) (hi : Idle t w.chip) : Good t w :=
  ⟨fun x hx => by rw [h2, h1.1]; exact hco x hx, hi⟩

/-- on the configuration registers the abstract run does to the device what it records (`aexec_shadow`) -/
theorem aexec_cfg (acts : List Act) (hok : ∀ a ∈ acts, ActOk a) :
    ∀ (c : Chip) (r sh : Regs) (reads : List (List Byte)), Coherent r c.regs →
      Coherent (acts.foldl recordOf r) (aexec c sh acts reads).1.regs := by
  induction acts with
  | nil => intro c r sh reads h; exact h
  | cons act rest ih =>
    intro c r sh reads h
    have h2 : ∀ a ∈ rest, ActOk a := fun a ha => hok a (by simp [ha])
    cases act with
    | rd | delay => exact ih h2 _ _ _ _ h
    | wr a v e => exact ih h2 _ _ _ _ (coherent_write r c a v e (hok _ (by simp)) h)

theorem aexec_coherent (acts : List Act) (hok : ∀ a ∈ acts, ActOk a) (c : Chip) (sh : Regs) (reads : List (List Byte))
    (h : Coherent sh c.regs) : Coherent (aexec c sh acts reads).2.1 (aexec c sh acts reads).1.regs := by
  rw [aexec_shadow]; exact aexec_cfg acts hok c sh sh reads h

/-- a run cut by data failures is the abstract run of a prefix of its actions, and that keeps
    the recorded configuration equal to the device -/
theorem C16_exec (t : Transport) (fails : Nat → Bool) (acts : List Act) (hwf : ActsWf acts)
    (hok : ∀ a ∈ acts, ActOk a) :
    ∀ (w : World) (reads : List (List Byte)), Good t w →
      onlyDataFailures (exec t fails w acts reads).1 = true → Good t (exec t fails w acts reads).2.1 := by
  intro w reads ⟨hco, hi⟩ hd
  obtain ⟨n, _, p1, p2, p3, _⟩ := exec_prefix t fails acts hwf w w.chip reads (Chip.Same.refl _) hi hd
  exact good_of_same p1 p2
    (aexec_coherent (acts.take n) (fun a ha => hok a (List.mem_of_mem_take ha)) w.chip w.shadow reads hco) p3

theorem plan_ok (sh : Regs) (op : Op) : ∀ a ∈ (op.plan sh).acts, ActOk a := by
  cases op with
  | config q => exact config_acts q sh (script_addr_cfg q sh)
  | readFifo n =>
    simp only [Op.plan]
    split <;> simp only [List.forall_mem_cons, forall_mem_nil_iff, and_true, ActOk]
  | selfTest | softReset | flushFifo | clearStepCount =>
    simp only [Op.plan, selfTestActs, List.forall_mem_cons, forall_mem_nil_iff, and_true, ActOk]
    decide
  | _ => exact fun _ h => List.mem_singleton.mp h ▸ trivial

theorem ctor_ok (c : Ctor) : ∀ a ∈ c.acts, ActOk a := by
  cases c <;> simp only [Ctor.acts, List.forall_mem_cons, forall_mem_nil_iff, and_true, ActOk]
  decide

/-- C16 for every API call: whatever the outcome (Ok, rejected, bus error at any data
    operation), the belief is true afterwards and the next access starts cleanly -/
theorem C16_runOp (t : Transport) (fails : Nat → Bool) (w : World) (op : Op) (hg : Good t w)
    (hd : onlyDataFailures (runOp t fails w op).1 = true) : Good t (runOp t fails w op).2.1 :=
  runOp_cases (motive := fun r => onlyDataFailures r.1 = true → Good t r.2.1) t fails w op (fun _ _ _ => hg)
    (fun _ _ h => h ▸ C16_exec t fails _ (plan_wf _ op) (plan_ok _ op) { w with idx := 0 } [] hg) hd

/-- and it holds for a freshly constructed driver on a chip at its power-on values -/
theorem C16_init (dev : Nat) (fails : Nat → Bool) (chip : Chip) (c : Ctor)
    (hreset : ∀ x ∈ DS.cfgAddrs, chip.regs x = DS.resetVal x) (hcs : chip.csHigh = true)
    (hd : onlyDataFailures (runCtor dev fails chip c).1 = true) (hnofault : ∀ i, fails i = false) :
    Good (c.transport dev) (runCtor dev fails chip c).2.1 := by
  obtain rfl : fails = noFaults := funext hnofault
  have hco : Coherent shadowDefault chip.regs := fun x hx => by rw [hreset x hx, defaults_eq_reset x hx]
  refine runCtor_cases (motive := fun r => Good (c.transport dev) r.2.1) dev noFaults chip c (fun _ hr => ?_)
  subst hr
  have hwf := ctor_wf c
  have hok := ctor_ok c
  cases c with
  | newI2c =>
    exact C16_exec (.i2c dev) noFaults _ hwf hok ⟨chip, shadowDefault, 0⟩ [] ⟨hco, fun h => nomatch h⟩
      (exec_clean _ _ _ _).1
  | newSpi | newSpi3 =>
    obtain ⟨d, h, hi⟩ := exec_spi_first ⟨chip, shadowDefault, 0⟩ hcs (List.forall_mem_cons.1 hwf).2 []
    exact good_of_same h.1 h.2.1
      (aexec_coherent _ (fun a ha => hok a (List.mem_cons_of_mem _ ha)) chip shadowDefault _ hco) hi

end Thm
end Bma400
