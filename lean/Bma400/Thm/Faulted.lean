/-
  Faulted - what the journal of a call cut by failures says, for EVERY fault schedule.

  `exec_okWrites`: over either transport and under any schedule of failures (data and pin), the
  acknowledged register writes of the decoded journal are exactly the writes of a PREFIX of the
  action list (the actions before the first one with a failed raw operation).
  `C07_faulted`: hence C07 for the concrete builder call under any fault schedule, in every
  reachable state: each acknowledged parameter write went out while that interrupt was disabled
  on the device (`P.C07` on the journal's acknowledged writes, as `judge` evaluates it).
-/
import Bma400.Thm.Reach
namespace Bma400
namespace Thm
open P

/-- the acknowledged writes of the decoded journal (none if it does not decode) -/
def journalWrites (t : Transport) (j : List JEntry) : Option (List W) := (decode t j).map okWrites

theorem okWrites_append (l1 l2 : List Acc) : okWrites (l1 ++ l2) = okWrites l1 ++ okWrites l2 := by
  induction l1 with
  | nil => rfl
  | cons a l ih => rcases a with ⟨_, _, _ | _⟩ | _ | _ | _ <;> simp [okWrites, ih]

theorem exec_okWrites (t : Transport) (fails : Nat → Bool) (acts : List Act) (hwf : ActsWf acts) (w : World)
    (reads : List (List Byte)) :
    ∃ n, n ≤ acts.length ∧ journalWrites t (exec t fails w acts reads).1 = some (okWrites ((acts.take n).map Act.acc)) := by
  obtain ⟨n, tail, hn, hd, ht, _⟩ := decode_exec t fails acts hwf w reads
  exact ⟨n, hn, by rw [journalWrites, hd, Option.map_some, okWrites_append, ht, List.append_nil]⟩

theorem okWrites_wact (ws : List W) : okWrites ((ws.map W.act).map Act.acc) = ws := by
  induction ws with
  | nil => rfl
  | cons w r ih => exact congrArg (w :: ·) ih

/-- C07 for the concrete builder call in every reachable state, over either transport and under
    EVERY fault schedule: the journal decodes, and each acknowledged write to a parameter
    register of an interrupt went out while that interrupt was disabled on the device -/
theorem C07_faulted (t : Transport) (fails : Nat → Bool) (w : World) (hw : WInv t w) (q : Request) :
    ∃ ws', journalWrites t (runOp t fails w (.config q)).1 = some ws' ∧ P.C07 w.chip.regs ws' := by
  refine runOp_cases (motive := fun r => ∃ ws', journalWrites t r.1 = some ws' ∧ P.C07 w.chip.regs ws') t fails w _
    (fun _ _ => ⟨[], by cases t <;> rfl, trivial⟩) (fun hg r hr => ?_)
  cases hs : q.script w.shadow with
  | error e => simp [Op.plan, hs] at hg
  | ok ws =>
    have hplan : (Op.config q).plan w.shadow = ⟨none, ws.map W.act⟩ := by simp [Op.plan, hs]
    have hwf := plan_wf w.shadow (.config q)
    rw [hplan] at hwf hr
    obtain ⟨n, _, hj⟩ := exec_okWrites t fails (ws.map W.act) hwf { w with idx := 0 } []
    rw [← List.map_take, okWrites_wact, ← hr] at hj
    exact ⟨ws.take n, hj, C07_prefix w.chip.regs ws n (C07_script q w.shadow w.chip.regs hw.1.co ws hs)⟩

end Thm
end Bma400
