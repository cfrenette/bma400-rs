/-
  FifoT - the FIFO frame header and the iterator step of src/types.rs, TRANSLATED from the source on
  every run by CONCRETE execution (tools/gen_fifo.py -> Bma400/GeneratedFifo.lean: the parser of
  gen_builders.py plus a small evaluator with `while`, compound assignment, `match`, bitflags
  operations), ARE the model's (Types.lean):

  * `fifo_header`: for ALL 256 header bytes, `Header::from_bits_truncate(b)` followed by
    `frame_type`, `resolution_is_12bit`, `has_data`, `num_payload_bytes` (the popcount loop
    included), `has_x_data`, `has_y_data`, `has_z_data` give what `hdr`, `frameType`,
    `resolutionIs12bit`, `hasData`, `numPayloadBytes`, `hasX`, `hasY`, `hasZ` give;
  * `fifo_next`: `FifoFrames::next()` with the cursor at offset 3 and 0 .. 8 bytes left, for all 256
    bytes under the cursor: the yielded slice and the new cursor are the model's `next`
    (`numPayloadBytes ≤ 6`, `fifo_payload_le`: with 8 or more bytes left nothing depends on how many).

  The theorems of C04 / C05 (every list of frames, every byte list, no bound on the length) are
  about `next` and the header functions; this file makes the finite core they rest on a statement
  about the current source.  Not covered by translation: the `Frame` accessors' sample arithmetic
  (`data_at_offset`) and the width of the cursor (a `u16` cursor only shows beyond 65 535 bytes:
  stream `fifo-huge`).
-/
import Bma400.Thm.C05
import Bma400.GeneratedFifo
namespace Bma400
namespace Thm
open T Generated

def ftCode : FrameType → Nat | .data => 0 | .time => 1 | .control => 2

def modelHeaderRow (b : Nat) : Nat × Nat × Bool × Bool × Nat × Bool × Bool × Bool :=
  let h := hdr (BitVec.ofNat 8 b)
  (b, ftCode (frameType h), resolutionIs12bit h, hasData h, numPayloadBytes h, hasX h, hasY h, hasZ h)

theorem fifo_header : (FifoT.header == (List.range 256).map modelHeaderRow) = true := by decide +kernel

def modelNextRow (b rem : Nat) : Nat × Nat × Option (Nat × Nat) × Nat :=
  let buf : List Byte := [0#8, 0#8, 0#8] ++ (if rem ≥ 1 then BitVec.ofNat 8 b :: List.replicate (rem - 1) 0#8 else [])
  let r := next buf ⟨3⟩
  (b, rem, r.1.map (fun f => (f.start, f.stop)), r.2.index)

/-- `modelNextRow` without the buffer: what `next_eq` says the row is -/
def nextRowSpec (b rem : Nat) : Nat × Nat × Option (Nat × Nat) × Nat :=
  let h := hdr (BitVec.ofNat 8 b)
  if rem = 0 then (b, rem, none, 3)
  else if frameType h == .data && !hasData h then (b, rem, none, 3 + 2)
  else if 3 + numPayloadBytes h + 1 > 3 + rem then (b, rem, none, 3 + numPayloadBytes h + 1)
  else (b, rem, some (3, 3 + numPayloadBytes h + 1), 3 + numPayloadBytes h + 1)

theorem modelNextRow_eq (b rem : Nat) : modelNextRow b rem = nextRowSpec b rem := by
  cases rem with
  | zero => rfl
  | succ k =>
    simp only [modelNextRow, nextRowSpec, Nat.succ_ne_zero, if_false, Nat.le_add_left, ge_iff_le, if_true,
      Nat.add_sub_cancel]
    rw [next_eq _ 3 (BitVec.ofNat 8 b) rfl,
      show ([0#8, 0#8, 0#8] ++ BitVec.ofNat 8 b :: List.replicate k 0#8).length = 3 + (k + 1) by simp; omega]
    split
    · rfl
    · split <;> rfl

/-- the kernel compares the 2304 generated rows with `nextRowSpec` (no buffer is built) -/
theorem fifo_next :
    (FifoT.next == (List.range 256).flatMap (fun b => (List.range 9).map (modelNextRow b))) = true := by
  rw [show modelNextRow = nextRowSpec from funext fun b => funext (modelNextRow_eq b)]
  decide +kernel

/-- no frame is longer than 7 bytes: 8 bytes left are as good as any larger number -/
theorem fifo_payload_le : ∀ n, n < 256 → numPayloadBytes (hdr (BitVec.ofNat 8 n)) ≤ 6 := fun _ _ => (payload_bounds _).2

theorem fifo_payload_le_byte (b : Byte) : numPayloadBytes (hdr b) ≤ 6 := (payload_bounds _).2

/-- with 8 or more bytes left, `next` does not depend on how many: the table rows for 8 bytes left
    stand for every longer buffer and every cursor position (in the model; the source's text has the
    same shape, and the width of its cursor is exercised by stream `fifo-huge`) -/
theorem fifo_next_far (buf : List Byte) (i : Nat) (b : Byte) (h : buf[i]? = some b) (hlen : i + 8 ≤ buf.length) :
    next buf ⟨i⟩ =
      (if frameType (hdr b) == .data && !hasData (hdr b) then (none, ⟨i + 2⟩)
       else (some ⟨i, i + numPayloadBytes (hdr b) + 1⟩, ⟨i + numPayloadBytes (hdr b) + 1⟩)) := by
  have hp := fifo_payload_le_byte b
  rw [next_eq buf i b h]
  split
  · rfl
  · rw [if_neg (by omega)]

end Thm
end Bma400
