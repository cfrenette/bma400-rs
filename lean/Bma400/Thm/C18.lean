/-
  C18 - construction succeeds exactly for chip id 0x90 and starts from reset defaults.

  `C18_i2c`, `C18_spi`, `C18_spi3`: for EVERY chip content (in particular all 256 values of
  the chip-id register, and every byte the chip shifts out during the SPI throw-away read
  while it is still in I2C mode), fault-free: the constructor returns Ok if and only if the
  id register reads 0x90 and ChipIdReadFailed otherwise; the I2C constructor performs one
  read of 0x00, the SPI constructors two (the first result is discarded), the 3-wire one
  additionally writes 0x01 to IF_CONF (0x7C); and the new driver's recorded configuration is
  `shadowDefault`.
  `C18_defaults`: `shadowDefault` is the datasheet reset value of every configuration
  register (0x49 / 0x22 / 0x06 / 0x00) - also the content of the simulated chip after
  power-on, so a fresh driver is coherent (`C16_init`).
  `C18_first_nothing` / `C18_first_exact`: consequently the first request for the reset
  values writes nothing (every builder but pin mapping), and any other first request writes, in
  its block, exactly the registers whose target differs from reset, 0x2F left aside (instances of
  `C08_idem` / `C08_script`).
-/
import Bma400.Thm.C16
import Bma400.Thm.C08
import Bma400.Thm.C01
namespace Bma400
namespace Thm
open P

theorem C18_defaults : ∀ x ∈ DS.cfgAddrs, shadowDefault x = DS.resetVal x := defaults_eq_reset

theorem outcome_of_id (id : Byte) :
    finishOutcome (if id ≠ 0x90#8 then some (.error .chipId) else some (.ok "")) =
      (if id = 0x90#8 then Outcome.ok "" else Outcome.err .chipId) := by
  by_cases h : id = 0x90#8 <;> simp [h, finishOutcome]

theorem burst_id (c : Chip) : c.burst 0 1 = [c.regs 0] := by
  simp [Chip.burst, Chip.dataAt]

/-- the result of a fault-free constructor call: the identity register decides (over SPI its second read) -/
theorem ctor_outcome (dev : Nat) (chip : Chip) {c : Ctor} (hcs : c ≠ .newI2c → chip.csHigh = true) :
    (runCtor dev noFaults chip c).2.2 = (if chip.regs 0 = 0x90#8 then Outcome.ok "" else Outcome.err .chipId) := by
  refine runCtor_cases (motive := fun r => r.2.2 = _) dev noFaults chip c (fun r hr => ?_)
  subst hr
  have hwf := ctor_wf c
  cases c with
  | newI2c =>
    simp only [Ctor.transport]
    rw [(exec_refines_idle (.i2c dev) _ hwf ⟨chip, shadowDefault, 0⟩ [] (fun h => nomatch h)).1.ok]
    simp only [Ctor.acts, aexec, burst_id]
    exact outcome_of_id _
  | newSpi | newSpi3 =>
    obtain ⟨d, h, _⟩ := exec_spi_first ⟨chip, shadowDefault, 0⟩ (hcs (by decide)) (List.forall_mem_cons.1 hwf).2 []
    simp only [Ctor.transport, Ctor.acts]
    rw [h.ok]
    simp only [aexec, burst_id]
    exact outcome_of_id _

theorem C18_i2c (dev : Nat) (chip : Chip) :
    let r := runCtor dev noFaults chip .newI2c
    decodeI2c dev r.1 = some [.rd 0 1 true] ∧
    r.2.2 = (if chip.regs 0 = 0x90#8 then Outcome.ok "" else Outcome.err .chipId) ∧
    r.2.1.shadow = shadowDefault :=
  have h := runCtor_clean dev chip .newI2c
  ⟨h.2.1, ctor_outcome dev chip (fun h => absurd rfl h), h.2.2⟩

theorem C18_spi (dev : Nat) (chip : Chip) (hcs : chip.csHigh = true) :
    decodeSpi (runCtor dev noFaults chip .newSpi).1 = some [.rd 0 1 true, .rd 0 1 true] ∧
    (runCtor dev noFaults chip .newSpi).2.2 = (if chip.regs 0 = 0x90#8 then Outcome.ok "" else Outcome.err .chipId) ∧
    (runCtor dev noFaults chip .newSpi).2.1.shadow = shadowDefault :=
  have h := runCtor_clean dev chip .newSpi
  ⟨h.2.1, ctor_outcome dev chip (fun _ => hcs), h.2.2⟩

theorem C18_spi3 (dev : Nat) (chip : Chip) (hcs : chip.csHigh = true) :
    decodeSpi (runCtor dev noFaults chip .newSpi3).1 = some [.rd 0 1 true, .rd 0 1 true, .wr 0x7C 0x01#8 true] ∧
    (runCtor dev noFaults chip .newSpi3).2.2 = (if chip.regs 0 = 0x90#8 then Outcome.ok "" else Outcome.err .chipId) ∧
    (runCtor dev noFaults chip .newSpi3).2.1.shadow = shadowDefault :=
  have h := runCtor_clean dev chip .newSpi3
  ⟨h.2.1, ctor_outcome dev chip (fun _ => hcs), h.2.2⟩

/-- the first request for the reset values writes nothing (every builder but pin mapping) -/
theorem C18_first_nothing (q : Request) (hsame : ∀ a ∈ q.block, q.target shadowDefault a = shadowDefault a)
    (ws : List W) (h : q.script shadowDefault = .ok ws) (hpin : ∀ l, q ≠ .pin l) : ws = [] :=
  C08_idem q shadowDefault hsame ws h hpin

/-- any first request writes, of its block, exactly the registers that differ from reset (0x2F, which the
    wake-up builder may write twice, left aside) -/
theorem C18_first_exact (q : Request) (ws : List W) (h : q.script shadowDefault = .ok ws) :
    ∀ a ∈ q.block, a ≠ 0x2F →
      (valuesAt ws a = [] ∧ q.target shadowDefault a = shadowDefault a) ∨
      (valuesAt ws a = [q.target shadowDefault a] ∧ q.target shadowDefault a ≠ shadowDefault a) := by
  intro a ha hne
  have hw := (C08_script q shadowDefault shadowDefault (fun _ _ => rfl) ws h).1 a ha
  have heff := C01_effect q shadowDefault shadowDefault (fun _ _ => rfl) ws h a
  simp only [ha, if_true] at heff
  rcases hw with h1 | h1 | ⟨h1, h2⟩
  · exact absurd h1 hne
  · left
    refine ⟨h1, ?_⟩
    -- no write to a: the register still holds the default, and it holds the target
    rw [← heff, applyWrites_last, h1]
    rfl
  · right; exact ⟨h1, fun e => h2 e.symm⟩

example : (runCtor 0x14 noFaults (Chip.powerOn (fun _ => 0x90#8) [] [] [] 0x55#8) .newSpi3).2.2 = .ok "" ∧
    (runCtor 0x14 noFaults (Chip.powerOn (fun a => if a = 0 then 0x91#8 else 0#8) [] [] [] 0x90#8) .newSpi).2.2
      = .err .chipId := by decide

end Thm
end Bma400
