/-
  C06 - no interrupt is ever left enabled at an output data rate it cannot use.

  `Inv6` (Props.lean) is the device-level invariant.  For EVERY builder, EVERY request and
  EVERY coherent state without reserved bits that satisfies `Inv6`:
  `C06_iff`     the request is rejected if and only if applying it (the ideal post-state
                `P.ideal`: datasheet-level target on the block, everything else unchanged)
                would violate `Inv6`; a `TapIntEnabledInvalidODR` rejection means the tap
                clause of the ideal state fails, a `Filt1InterruptInvalidODR` one that a
                filter-1 clause fails (when both would fail either error is accepted - the
                property does not rank them); `FifoReadWhilePwrDisable` is never returned.
  What becomes of the invariant when the request is rejected, accepted, or cut short by a bus
  failure (`C06_reject`, `C06_accept`, `C06_prefix`) is in Thm/C06b.
-/
import Bma400.Thm.C01
namespace Bma400
namespace Thm
open P R

theorem odr100 : ∀ b : Byte, (acc1_odr b == ODR.hz100) = decide ((b &&& 0x0F#8).toNat = 0x08) := by decide +kernel
theorem odr200 : ∀ b : Byte, (acc1_odr b == ODR.hz200) = decide ((b &&& 0x0F#8).toNat = 0x09) := by decide +kernel

/-- `g0_src` and `ac1_src` read the source off one bit -/
theorem srcFilt1 (c : Bool) : ((if c = true then DataSource.filt2 else .filt1) == .filt1) = !c := by cases c <;> rfl

/-- one clause of `Inv6` as the Boolean the builders compute -/
theorem clause_iff (en src : Bool) (p : Prop) [Decidable p] :
    ¬(en = true ∧ src = false ∧ ¬p) ↔ (en && !src && !decide p) = false := by
  simp

theorem clause2_iff (en : Bool) (p : Prop) [Decidable p] : ¬(en = true ∧ ¬p) ↔ (en && !decide p) = false := by
  simp

/-- the two checks of the builders' validation, on registers `r` -/
def tapBad (r : Regs) : Bool := tapEn r && !odrIs200 r
def filt1Bad (r : Regs) : Bool :=
  ((actchEn r && actFilt1 r) || (gen1En r && gen1Filt1 r) || (gen2En r && gen2Filt1 r)) && !odrIs100 r

/-- each atom of the two checks reads one register: the enable bits in 0x1F / 0x20 (here from `e`), the sources in
    0x3F / 0x4A / 0x56 (from `s`), the data rate in 0x1A (from `o`) -/
theorem checks_of (r e s o : Regs) (h1F : r 0x1F = e 0x1F) (h20 : r 0x20 = e 0x20) (h3F : r 0x3F = s 0x3F)
    (h4A : r 0x4A = s 0x4A) (h56 : r 0x56 = s 0x56) (h1A : r 0x1A = o 0x1A) :
    tapBad r = (tapEn e && !odrIs200 o) ∧
    filt1Bad r = (((actchEn e && actFilt1 s) || (gen1En e && gen1Filt1 s) || (gen2En e && gen2Filt1 s)) && !odrIs100 o) := by
  simp only [tapBad, tapEn, odrIs200, filt1Bad, actchEn, actFilt1, gen1En, gen1Filt1, gen2En, gen2Filt1, odrIs100, h1F, h20,
    h3F, h4A, h56, h1A, and_self]

theorem tapClause_iff (r : Regs) : tapClause r ↔ tapBad r = false := by
  unfold tapClause tapBad tapEn odrIs200
  rw [← has_uni, odr200, clause2_iff]; rfl

theorem filt1Clause_iff (r : Regs) : filt1Clause r ↔ filt1Bad r = false := by
  unfold filt1Clause filt1Bad gen1En gen2En actchEn gen1Filt1 gen2Filt1 actFilt1 odrIs100 g0_src ac1_src
  rw [clause_iff, clause_iff, clause_iff, srcFilt1, srcFilt1, srcFilt1, odr100]
  show _ ↔ (_ && !decide (P.odr r = 8)) = false
  -- the builders ask actch, gen1, gen2; `filt1Clause` lists gen1, gen2, actch
  by_cases h : P.odr r = 8 <;> simp [h, ic0_GEN1, ic0_GEN2, ic1_ACTCH, g0_SRC, ac1_SRC, and_comm, and_left_comm]

/-- the registers request `q` aims at, in terms of the recorded configuration -/
def goal (q : Request) (sh : Regs) : Regs := fun a => if a ∈ q.block then q.target sh a else sh a

theorem ideal_goal (q : Request) (sh chip : Regs) (hco : Coherent sh chip) (hdef : ∀ x ∈ DS.cfgAddrs, DefAt sh x) :
    ∀ a ∈ DS.cfgAddrs, ideal q chip a = goal q sh a := by
  intro a ha
  unfold ideal goal
  split
  · rename_i hb; exact ((C02_target q sh chip hco hdef a (block_sub_cfg q a hb)).1).symm
  · exact (hco a ha).symm

def outcomeOf : Except CfgErr (List W) → CfgOutcome
  | .error e => .rejected e
  | .ok _ => .ok

def Verdict (q : Request) (chip : Regs) (o : CfgOutcome) : Prop :=
  ((∃ e, o = .rejected e) ↔ ¬ Inv6 (ideal q chip)) ∧
  (o = .rejected .tapOdr → ¬ tapClause (ideal q chip)) ∧
  (o = .rejected .filt1Odr → ¬ filt1Clause (ideal q chip)) ∧
  o ≠ .rejected .fifoPwr

theorem outcomeOf_ok (ws : List W) : outcomeOf (.ok ws) = .ok := rfl
theorem outcomeOf_error (e : CfgErr) : outcomeOf (.error e) = .rejected e := rfl

/-- the registers `Inv6` looks at -/
def six : List Nat := [0x1A, 0x1F, 0x20, 0x3F, 0x4A, 0x56]

theorem six_sub_cfg : ∀ a ∈ six, a ∈ DS.cfgAddrs := by decide

theorem Inv6_split (c : Regs) : Inv6 c ↔ tapClause c ∧ filt1Clause c := by
  unfold Inv6 tapClause filt1Clause; rfl

theorem tapClause_congr (c c' : Regs) (h : ∀ a ∈ [0x1A, 0x20], c' a = c a) : tapClause c' ↔ tapClause c := by
  unfold tapClause P.odr; rw [h 0x1A (by simp), h 0x20 (by simp)]

theorem filt1Clause_congr (c c' : Regs) (h : ∀ a ∈ [0x1A, 0x1F, 0x20, 0x3F, 0x4A, 0x56], c' a = c a) :
    filt1Clause c' ↔ filt1Clause c := by
  unfold filt1Clause P.odr
  rw [h 0x1A (by simp), h 0x1F (by simp), h 0x20 (by simp), h 0x3F (by simp), h 0x4A (by simp), h 0x56 (by simp)]

/-- `Verdict` in terms of the two checks on the registers the request aims at -/
theorem verdict_of {q : Request} {sh chip : Regs} (hco : Coherent sh chip) (hdef : ∀ x ∈ DS.cfgAddrs, DefAt sh x)
    (o : CfgOutcome)
    (h : match o with
      | .ok => tapBad (goal q sh) = false ∧ filt1Bad (goal q sh) = false
      | .rejected .tapOdr => tapBad (goal q sh) = true
      | .rejected .filt1Odr => filt1Bad (goal q sh) = true
      | _ => False) : Verdict q chip o := by
  have ig := ideal_goal q sh chip hco hdef
  have e1 : tapClause (ideal q chip) ↔ tapBad (goal q sh) = false := by
    rw [tapClause_congr (goal q sh) _ (fun a ha => ig a (by revert a; decide)), tapClause_iff]
  have e2 : filt1Clause (ideal q chip) ↔ filt1Bad (goal q sh) = false := by
    rw [filt1Clause_congr (goal q sh) _ (fun a ha => ig a (by revert a; decide)), filt1Clause_iff]
  rw [Verdict, Inv6_split, e1, e2]
  split at h <;> simp_all

theorem C06_acc (l : List AccSetter) (sh chip : Regs) (hco : Coherent sh chip)
    (hdef : ∀ x ∈ DS.cfgAddrs, DefAt sh x) :
    Verdict (.acc l) chip (outcomeOf ((Request.acc l).script sh)) := by
  apply verdict_of hco hdef
  obtain ⟨eT, eF⟩ := checks_of (goal (.acc l) sh) sh sh ((Request.acc l).target sh) rfl rfl rfl rfl rfl rfl
  simp only [Request.script, accScript, ← eT, ← eF]
  cases filt1Bad (goal (.acc l) sh) <;> cases tapBad (goal (.acc l) sh) <;> simp [outcomeOf]

theorem C06_int (l : List IntSetter) (sh chip : Regs) (hco : Coherent sh chip)
    (hdef : ∀ x ∈ DS.cfgAddrs, DefAt sh x) :
    Verdict (.int l) chip (outcomeOf ((Request.int l).script sh)) := by
  apply verdict_of hco hdef
  obtain ⟨eT, eF⟩ := checks_of (goal (.int l) sh) ((Request.int l).target sh) sh sh rfl rfl rfl rfl rfl rfl
  rw [eT, eF]
  simp only [Request.script, intScript, Bool.and_right_comm _ (!odrIs100 sh)]
  generalize (Request.int l).target sh = rq
  cases tapEn rq && !odrIs200 sh <;> cases odrIs100 sh <;> cases gen1En rq && gen1Filt1 sh <;>
    cases gen2En rq && gen2Filt1 sh <;> cases actchEn rq && actFilt1 sh <;> simp [outcomeOf]

theorem Inv6_congr (c c' : Regs) (h : ∀ a ∈ six, c' a = c a) :
    Inv6 c' ↔ Inv6 c := by
  rw [Inv6_split, Inv6_split, tapClause_congr c c' (fun a ha => h a (by revert a; decide)), filt1Clause_congr c c' h]

/-- both checks pass on registers that agree, where `Inv6` looks, with a state satisfying it -/
theorem inv6_checks (r chip : Regs) (h : ∀ a ∈ six, chip a = r a) (hinv : Inv6 chip) :
    tapBad r = false ∧ filt1Bad r = false := by
  rwa [Inv6_congr r chip h, Inv6_split, tapClause_iff, filt1Clause_iff] at hinv

/-- a builder that rewrites the source of one filter-1 clause and checks that clause alone: `k b` is the filter-1 check
    with `b` in place of that clause, `e`: its interrupt is enabled, `f` / `f'`: its source is filter 1 before / after -/
theorem verdict_src {q : Request} {sh chip : Regs} (hco : Coherent sh chip) (hdef : ∀ x ∈ DS.cfgAddrs, DefAt sh x)
    (hinv : Inv6 chip) (k : Bool → Bool) (e f f' chgd : Bool) (hk : ∀ b, k b = (k false || b))
    (hsh : filt1Bad sh = (k (e && f) && !odrIs100 sh))
    (hgoal : tapBad (goal q sh) = tapBad sh ∧ filt1Bad (goal q sh) = (k (e && f') && !odrIs100 sh))
    (hsame : chgd = false → f' = f) :
    Verdict q chip (if (chgd && (e && f' && !odrIs100 sh)) = true then .rejected .filt1Odr else .ok) := by
  apply verdict_of hco hdef
  obtain ⟨h1, h2⟩ := inv6_checks sh chip (fun a ha => (hco a (six_sub_cfg a ha)).symm) hinv
  rw [hgoal.1, h1, hgoal.2, hk]
  rw [hsh, hk] at h2
  cases chgd
  · cases hsame rfl; simpa using h2
  · revert h2; cases odrIs100 sh <;> cases k false <;> cases e <;> cases f' <;> simp

theorem C06_gen (g : GenId) (l : List GenSetter) (sh chip : Regs) (hco : Coherent sh chip)
    (hdef : ∀ x ∈ DS.cfgAddrs, DefAt sh x) (hinv : Inv6 chip) :
    Verdict (.gen g l) chip (outcomeOf ((Request.gen g l).script sh)) := by
  generalize hrq : (Request.gen g l).target sh = rq
  have ho : outcomeOf ((Request.gen g l).script sh) =
      if (chg sh rq (genBlock g) && (has (sh 0x1F) g.enMask && (g0_src (rq g.base) == .filt1) && !odrIs100 sh)) = true
        then .rejected .filt1Odr else .ok := by
    simp only [Request.script, genScript, hrq, apply_ite outcomeOf, outcomeOf_ok, outcomeOf_error,
      Bool.and_right_comm _ (!odrIs100 sh)]
    cases chg sh rq (genBlock g) <;> simp
  rw [ho]
  have hs : chg sh rq (genBlock g) = false → (g0_src (rq g.base) == DataSource.filt1) = (g0_src (sh g.base) == .filt1) :=
    fun hc => by rw [chg_false.1 hc g.base (by cases g <;> decide)]
  cases g with
  | g1 =>
    exact verdict_src hco hdef hinv (actchEn sh && actFilt1 sh || · || gen2En sh && gen2Filt1 sh) _ _ _ _
      (fun b => by cases b <;> simp) rfl (hrq ▸ checks_of _ sh (goal (.gen .g1 l) sh) sh rfl rfl rfl rfl rfl rfl) hs
  | g2 =>
    exact verdict_src hco hdef hinv (actchEn sh && actFilt1 sh || gen1En sh && gen1Filt1 sh || ·) _ _ _ _
      (fun b => by cases b <;> simp) rfl (hrq ▸ checks_of _ sh (goal (.gen .g2 l) sh) sh rfl rfl rfl rfl rfl rfl) hs

theorem C06_act (l : List ActSetter) (sh chip : Regs) (hco : Coherent sh chip)
    (hdef : ∀ x ∈ DS.cfgAddrs, DefAt sh x) (hinv : Inv6 chip) :
    Verdict (.act l) chip (outcomeOf ((Request.act l).script sh)) := by
  generalize hrq : (Request.act l).target sh = rq
  have ho : outcomeOf ((Request.act l).script sh) =
      if (chg sh rq [0x55, 0x56] && (has (sh 0x20) ic1_ACTCH && (ac1_src (rq 0x56) == .filt1) && !odrIs100 sh)) = true
        then .rejected .filt1Odr else .ok := by
    simp only [Request.script, actScript, hrq, apply_ite outcomeOf, outcomeOf_ok, outcomeOf_error]
    cases chg sh rq [0x55, 0x56] <;> simp
  rw [ho]
  exact verdict_src hco hdef hinv (· || gen1En sh && gen1Filt1 sh || gen2En sh && gen2Filt1 sh) _
    (ac1_src (sh 0x56) == .filt1) _ _ (fun b => by cases b <;> simp) rfl
    (hrq ▸ checks_of _ sh (goal (.act l) sh) sh rfl rfl rfl rfl rfl rfl)
    (fun hc => by rw [chg_false.1 hc 0x56 (by decide)])

/-- builders that never reject and never touch the six registers of the invariant -/
theorem C06_passive (q : Request) (sh chip : Regs) (hco : Coherent sh chip) (hdef : ∀ x ∈ DS.cfgAddrs, DefAt sh x)
    (hinv : Inv6 chip) (ws : List W) (hb : ∀ a ∈ six, a ∉ q.block) :
    Verdict q chip (outcomeOf (.ok ws)) := by
  apply verdict_of hco hdef
  exact inv6_checks _ chip (fun a ha => by rw [goal, if_neg (hb a ha), hco a (six_sub_cfg a ha)]) hinv

theorem C06_iff (q : Request) (sh chip : Regs) (hco : Coherent sh chip)
    (hdef : ∀ x ∈ DS.cfgAddrs, DefAt sh x) (hinv : Inv6 chip) :
    Verdict q chip (outcomeOf (q.script sh)) := by
  cases q with
  | acc l => exact C06_acc l sh chip hco hdef
  | int l => exact C06_int l sh chip hco hdef
  | gen g l => exact C06_gen g l sh chip hco hdef hinv
  | act l => exact C06_act l sh chip hco hdef hinv
  | _ => exact C06_passive _ sh chip hco hdef hinv _ (by simp [six, Request.block])

end Thm
end Bma400
