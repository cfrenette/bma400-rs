/-
  Builders - the `write()` functions of the eleven configuration builders and the self-test
  set-up / clean-up, TRANSLATED from /repo/src/config.rs and /repo/src/config/*.rs on every run
  (tools/gen_builders.py -> Bma400/GeneratedBld.lean, by symbolic execution of the Rust source),
  ARE the hand-written scripts of Builders.lean / Driver.lean - for every recorded configuration
  `sh` and every builder copy `rq`, not only for sampled ones.

  The property theorems (C01, C06, C07, C08, C16, ...) are about `Request.script`; this file is
  the proof obligation that ties `Request.script` to the current text of the crate:

      source =(translator)= Generated.Bld.* =(this file)= accScript ... tapScript
             = Request.script q sh   (bld_script, for every request q)

  Together with Thm/Encoders.lean (register encoders / decoders, also translated) the whole
  configuration layer of the model is regenerated from the source and re-proved equal on every
  run; the builders' bool / enum setters (`Request.target`), the API layer of lib.rs and the transports
  are translated likewise (Thm/SettersT, Thm/Plans, Thm/Frames); the numeric setters stay tied by the
  differential check.

  The translator also enforces the COMMIT DISCIPLINE the interpreter assumes (`Eff.commit`): every
  `write_register(v)?` is followed, before the next fallible operation, by recording `v` in the
  configuration the driver keeps - recording early or late is what C16 forbids.
-/
import Bma400.GeneratedBld
import Bma400.Lemmas.Writes
namespace Bma400
namespace Thm
open Generated

theorem not_nand_not (a b : Bool) : (!(!a && !b)) = (a || b) := by simp

/-! An interrupt is suspended while its registers change.  With `c` the recorded enable register and `d` the
    decision to suspend, the source writes `t = if d then clr c m else c`, then the changes, then `c` again if
    `t` differs from `c`.  That comparison is `d && has c m` (`ite_bne`, `clr_bne`), which is `d`, since `d` is
    `has c m && ..`; a source that remembers `d` and restores on that is the same script. -/

theorem wIf_ite (d : Bool) (a : Nat) (x y : Byte) : wIf d a (if d then x else y) = wIf d a x := by
  cases d <;> rfl

theorem ite_bne (d : Bool) (x c : Byte) : ((if d then x else c) != c) = (d && x != c) := by
  cases d <;> simp

theorem bne_ite (d : Bool) (x c : Byte) : (c != if d then x else c) = (d && x != c) := by
  rw [bne_comm, ite_bne]

theorem and_and_left (a b : Bool) : (a && b && a) = (a && b) := by
  rw [Bool.and_right_comm, Bool.and_self]

/-- gen_int_config.rs compares the request with the record, the other builders the record with the request -/
theorem bne_flip (sh rq : Regs) (a : Nat) : (rq a != sh a) = (sh a != rq a) := bne_comm

/-- unfold both sides and normalise.  `↓` rewrites the suspend / restore idiom before `simp` enters it and
    makes a proposition of its condition.  A rewrite of the source that this does not normalise away (an
    early return, say) is left to `grind`; on the source as it is, `simp` leaves it nothing. -/
syntax "bridge" "[" Lean.Parser.Tactic.simpLemma,* "]" : tactic
macro_rules
  | `(tactic| bridge [$ls,*]) =>
    `(tactic| (simp [$ls,*, dws, dw_wIf, chg, odrIs100, odrIs200, actchEn, actFilt1, gen1En, gen2En, gen1Filt1,
                 gen2Filt1, tapEn, ↓wIf_ite, ↓ite_bne, ↓bne_ite, clr_bne, clr_clr, has_uni, and_and_left,
                 Bool.or_assoc, or_assoc, and_assoc]
               <;> grind [wIf]))

/-- the source asks gen2, gen1, actch for their use of filt1, the model actch, gen1, gen2 -/
theorem bld_acc (sh rq : Regs) : Bld.acc sh rq = accScript sh rq := by
  bridge [Bld.acc, accScript, Bool.or_comm, Bool.or_left_comm]
theorem bld_int (sh rq : Regs) : Bld.int sh rq = intScript sh rq := by bridge [Bld.int, intScript]
theorem bld_alp (sh rq : Regs) : Bld.alp sh rq = alpScript sh rq := by bridge [Bld.alp, alpScript]
theorem bld_awk (sh rq : Regs) : Bld.awk sh rq = awkScript sh rq := by bridge [Bld.awk, awkScript]
theorem bld_fifo (sh rq : Regs) : Bld.fifo sh rq = fifoScript sh rq := by bridge [Bld.fifo, fifoScript]
theorem bld_wkup (sh rq : Regs) : Bld.wkup sh rq = wkupScript sh rq := by bridge [Bld.wkup, wkupScript]
theorem bld_ori (sh rq : Regs) : Bld.ori sh rq = oriScript sh rq := by bridge [Bld.ori, oriScript, oriBlock]
theorem bld_act (sh rq : Regs) : Bld.act sh rq = actScript sh rq := by bridge [Bld.act, actScript]
theorem bld_tap (sh rq : Regs) : Bld.tap sh rq = tapScript sh rq := by bridge [Bld.tap, tapScript]
theorem bld_gen1 (sh rq : Regs) : Bld.gen1 sh rq = genScript .g1 sh rq := by
  bridge [Bld.gen1, genScript, genBlock, GenId.base, GenId.enMask, List.range, List.range.loop, bne_flip sh rq]
theorem bld_gen2 (sh rq : Regs) : Bld.gen2 sh rq = genScript .g2 sh rq := by
  bridge [Bld.gen2, genScript, genBlock, GenId.base, GenId.enMask, List.range, List.range.loop, bne_flip sh rq]

/-- the pin-mapping builder: the three temporaries are the model's folds (`pinTmp0/1/W`), whatever
    names the translator gave to the intermediate values.  It has no suspend / restore idiom for `bridge`
    to normalise: unfolding the folds leaves the same term on both sides. -/
theorem bld_pin (sh rq : Regs) : Bld.pin sh rq = pinScript sh rq := by
  simp only [Bld.pin, pinScript, pinTmp0, pinTmp1, pinTmpW, List.foldl, clrIf, mapped12, mapped3, not_nand_not,
    bne_iff_ne, ne_eq, ite_not, clr_clr, dws, dw_wIf, List.flatMap_cons, List.flatMap_nil, List.append_nil,
    List.append_assoc]
  rfl

/-- **the tie**: `write()` of every builder, as translated from the current source, is the script the
    property theorems are about - for every request (any setter list) and every recorded configuration -/
theorem bld_script (q : Request) (sh : Regs) :
    q.script sh = (match q with
      | .acc _ => Bld.acc | .int _ => Bld.int | .pin _ => Bld.pin | .fifo _ => Bld.fifo
      | .alp _ => Bld.alp | .awk _ => Bld.awk | .wkup _ => Bld.wkup | .ori _ => Bld.ori
      | .gen .g1 _ => Bld.gen1 | .gen .g2 _ => Bld.gen2 | .act _ => Bld.act | .tap _ => Bld.tap) sh (q.target sh) := by
  cases q with
  | gen g l => cases g <;> simp [Request.script, bld_gen1, bld_gen2]
  | _ => simp [Request.script, bld_acc, bld_int, bld_pin, bld_fifo, bld_alp, bld_awk, bld_wkup, bld_ori, bld_act, bld_tap]

/-- the self test: its six set-up writes and six restoring writes, as translated from
    `Config::setup_self_test` / `cleanup_self_test`, are those of the model's `selfTestActs`
    (the nine actions in between - delays, SELF_TEST writes, the two data reads - are lib.rs:
    `api_selftest`, Thm/Plans) -/
theorem bld_selftest (sh : Regs) :
    selfTestActs sh = (Bld.selfTestSetup sh).map W.act ++ ((selfTestActs sh).drop 6).take 9
      ++ (Bld.selfTestCleanup sh).map W.act := rfl

/-- nothing was skipped: the eleven write() functions (the generic builder's translated once per interrupt:
    twelve definitions) and the two self-test halves were all translated, each with at least one bus-write site -/
theorem bld_sites : Bld.writeSites.length = 14 ∧ Bld.writeSites.all (0 < ·) = true := by decide

end Thm
end Bma400
