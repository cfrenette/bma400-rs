/-
  Frames - the two transports (src/i2c.rs, src/spi.rs), TRANSLATED from the source on every run by
  executing `write_register` / `read_register` under EVERY pattern of failing raw HAL operations
  (tools/gen_builders.py --transport -> Bma400/GeneratedFrames.lean: 2 + 2 + 8 + 16 rows), ARE the
  model's `writeRegister` / `readRegister` (Driver.lean): for every fault schedule, every state,
  every register and value / buffer length, the raw operations attempted, in order, and the error
  returned (which operation, as IOError or ChipSelectPinError) are those of the row of the table
  selected by the schedule.

  C12 (I2C framing), C13 (chip-select bracket, read = address|0x80 + dummy byte, then exactly n
  data bytes), C14 (both transports refine one abstract executor), C15 (the very failure is
  returned, nothing is attempted after it except the chip-select release) and C20 (the release
  happens after a failed transfer) are theorems about `writeRegister` / `readRegister`; this file
  makes them theorems about what src/i2c.rs and src/spi.rs say now.
-/
import Bma400.GeneratedFrames
import Bma400.Lemmas.Exec
namespace Bma400
namespace Thm
open Generated

def lookupRow {α : Type} (t : List (List Bool × α)) (fv : List Bool) : Option α :=
  (t.find? (fun r => r.1 == fv)).map (·.2)

/-- C13 says "one dummy byte": its VALUE is the chip's don't-care (the crate sends 0x00, a rewrite
    may send anything).  The two-byte transfer that opens an SPI read is compared up to that byte. -/
def normRaw : Raw → Raw
  | .spiTransfer [x, _] => .spiTransfer [x, 0#8]
  | r => r

/-- only the operation after the falling chip-select edge is the address + dummy transfer -/
def normOps : List Raw → List Raw
  | a :: b :: rest => a :: normRaw b :: rest
  | l => l

def normRows (t : List (List Bool × List Raw × Option (Bool × Nat))) : List (List Bool × List Raw × Option (Bool × Nat)) :=
  t.map (fun r => (r.1, normOps r.2.1, r.2.2))

/-- (pin?, index within the access); a transport returns no other error, and no row holds 1000 -/
def errShape (base : Nat) : Option Err → Option (Bool × Nat)
  | none => none
  | some (.io k) => some (false, k - base)
  | some (.pin k) => some (true, k - base)
  | some _ => some (false, 1000)

def shapeW (base : Nat) (x : List JEntry × World × Option Err) : List Raw × Option (Bool × Nat) :=
  (x.1.map (·.raw), errShape base x.2.2)

def shapeR (base : Nat) (x : List JEntry × World × Except Err (List Byte)) : List Raw × Option (Bool × Nat) :=
  (x.1.map (·.raw), errShape base (match x.2.2 with | .ok _ => none | .error e => some e))

theorem frames_i2c_write (dev : Nat) (fails : Nat → Bool) (w : World) (a : Nat) (v : Byte) :
    lookupRow (Frames.i2c_write dev a 0 v) [fails w.idx] = some (shapeW w.idx (writeRegister (.i2c dev) fails w a v)) := by
  cases h0 : fails w.idx <;>
    simp [lookupRow, Frames.i2c_write, shapeW, errShape, writeRegister, World.raw, h0]

theorem frames_i2c_read (dev : Nat) (fails : Nat → Bool) (w : World) (a n : Nat) :
    lookupRow (Frames.i2c_read dev a n 0#8) [fails w.idx] = some (shapeR w.idx (readRegister (.i2c dev) fails w a n)) := by
  cases h0 : fails w.idx <;>
    simp [lookupRow, Frames.i2c_read, shapeR, errShape, readRegister, World.raw, h0]

theorem errShape_io (b k : Nat) : errShape b (some (.io (b + k))) = some (false, k) := by simp [errShape]
theorem errShape_pin (b k : Nat) : errShape b (some (.pin (b + k))) = some (true, k) := by simp [errShape]

/- the closed form of the model on one side, the row of the table on the other: once the schedule
   bits are fixed both sides compute.  (Every table takes device address, register, length and value;
   the ones its function does not use are given as 0.) -/
theorem frames_spi_write (fails : Nat → Bool) (w : World) (a : Nat) (v : Byte) :
    lookupRow (Frames.spi_write 0 a 0 v) [fails w.idx, fails (w.idx + 1), fails (w.idx + 2)]
      = some (shapeW w.idx (writeRegister .spi fails w a v)) := by
  rw [writeRegister_spi]
  have e0 : errShape w.idx (some (.pin w.idx)) = some (true, 0) := errShape_pin w.idx 0
  have e1 := errShape_io w.idx 1
  have e2 := errShape_pin w.idx 2
  generalize fails w.idx = f0
  generalize fails (w.idx + 1) = f1
  generalize fails (w.idx + 2) = f2
  cases f0 <;> cases f1 <;> cases f2 <;>
    simp only [shapeW, Bool.false_eq_true, if_false, if_true, Bool.not_true, Bool.not_false, List.map, e0, e1, e2] <;> rfl

theorem frames_spi_read (fails : Nat → Bool) (w : World) (a n : Nat) :
    lookupRow (normRows (Frames.spi_read 0 a n 0#8)) [fails w.idx, fails (w.idx + 1), fails (w.idx + 2), fails (w.idx + 3)]
      = some (shapeR w.idx (readRegister .spi fails w a n)) := by
  rw [readRegister_spi]
  have e0 : errShape w.idx (some (.pin w.idx)) = some (true, 0) := errShape_pin w.idx 0
  have e1 := errShape_io w.idx 1
  have e2 := errShape_io w.idx 2
  have e3 := errShape_pin w.idx 3
  generalize fails w.idx = f0
  generalize fails (w.idx + 1) = f1
  generalize fails (w.idx + 2) = f2
  generalize fails (w.idx + 3) = f3
  cases f0 <;> cases f1 <;> cases f2 <;> cases f3 <;>
    simp only [shapeR, Bool.false_eq_true, if_false, if_true, Bool.not_true, Bool.not_false, List.map, e0, e1, e2, e3] <;> rfl

/-! The read functions once more, for an EMPTY buffer (in the source `buffer.is_empty()` and
    `buffer.len() == 0` are then true): the same framing with a data phase of zero bytes - no
    special case that skips the transfer, the release or the transaction. -/

/- the tables for the empty buffer ARE the general tables at n = 0 (this unfolds both) -/
theorem frames_i2c_read_empty (dev : Nat) (fails : Nat → Bool) (w : World) (a : Nat) :
    lookupRow (Frames.i2c_read_empty dev a 0 0#8) [fails w.idx]
      = some (shapeR w.idx (readRegister (.i2c dev) fails w a 0)) :=
  frames_i2c_read dev fails w a 0

theorem frames_spi_read_empty (fails : Nat → Bool) (w : World) (a : Nat) :
    lookupRow (normRows (Frames.spi_read_empty 0 a 0 0#8)) [fails w.idx, fails (w.idx + 1), fails (w.idx + 2), fails (w.idx + 3)]
      = some (shapeR w.idx (readRegister .spi fails w a 0)) :=
  frames_spi_read fails w a 0

def isHigh : Raw → Bool | .csHigh => true | _ => false
def isLow : Raw → Bool | .csLow => true | _ => false

/-- C20 / C13 read off the TRANSLATED SPI transport directly (no model in between): in every one of
    the 8 + 16 + 16 executions, the first operation is the falling chip-select edge, and unless that
    edge itself failed the LAST operation attempted is the rising edge - whatever failed in between -/
theorem frames_spi_bracket (dev a n : Nat) (v : Byte) :
    (Frames.spi_write dev a n v ++ Frames.spi_read dev a n v ++ Frames.spi_read_empty dev a n v).all
      (fun r => (r.2.1.head?.map isLow == some true) &&
                (r.1.head? == some true || r.2.1.getLast?.map isHigh == some true)) = true := by
  rfl

def firstFail (fv : List Bool) (nOps : Nat) : Option Nat := (List.range nOps).find? (fun k => fv.getD k false)

/-- C15 read off the translated transports directly: the reported index (none for Ok) is the first set
    schedule bit among the attempted operations, or among all but the last of them -/
theorem frames_first_failure (dev a n : Nat) (v : Byte) :
    (Frames.i2c_write dev a n v ++ Frames.i2c_read dev a n v ++ Frames.i2c_read_empty dev a n v ++
     Frames.spi_write dev a n v ++ Frames.spi_read dev a n v ++ Frames.spi_read_empty dev a n v).all
      (fun r => (r.2.2.map (·.2)) == firstFail r.1 r.2.1.length ||
                -- (after a failed transfer the release is still attempted; its own failure is not reported)
                (r.2.2.map (·.2)) == firstFail r.1 (r.2.1.length - 1)) = true := by
  rfl

end Thm
end Bma400
