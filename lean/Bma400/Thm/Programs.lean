/-
  Programs - C14 and C11 for whole programs of API calls (not one action list); the history forms of
  C12 (`C12_recorded`), C16 (`C16_recovery`) and C20 (`C20_history`).

  `C14_program`: for EVERY list of operations, run fault-free over I2C and over SPI from
  devices with the same content and the same recorded configuration (SPI interface idle),
  every call has the same outcome (value or error) and the same decoded register-level
  accesses on both transports, and the final devices and recorded configurations are the same.
  `reset_reachable` / `C11_program`: from ANY reachable state a fault-free soft_reset returns Ok
  and leaves exactly the state of a fresh driver on that chip at its power-on values, so every
  further program behaves as on the fresh driver.
-/
import Bma400.Thm.Reach
import Bma400.Thm.C11
namespace Bma400
namespace Thm
open P R

/-- a program: the calls one after the other, fault-free; per call the journal and the outcome -/
def runProgram (t : Transport) : World → List Op → List (List JEntry × Outcome) × World
  | w, [] => ([], w)
  | w, op :: r =>
    let x := runOp t noFaults w op
    let y := runProgram t x.2.1 r
    ((x.1, x.2.2) :: y.1, y.2)

/-- two journals, one per transport, describe the same register-level accesses -/
def SameAccesses (dev : Nat) (a b : List (List JEntry × Outcome)) : Prop :=
  a.map (fun x => (decodeI2c dev x.1, x.2)) = b.map (fun x => (decodeSpi x.1, x.2))

theorem C14_call (dev : Nat) (op : Op) (wi ws : World) (hchip : Chip.Same wi.chip ws.chip)
    (hsh : wi.shadow = ws.shadow) (hcs : ws.chip.csHigh = true) (hsm : ws.chip.spiMode = true) :
    let ri := runOp (.i2c dev) noFaults wi op
    let rs := runOp .spi noFaults ws op
    decodeI2c dev ri.1 = decodeSpi rs.1 ∧ ri.2.2 = rs.2.2 ∧
    ri.2.1.shadow = rs.2.1.shadow ∧ Chip.Same ri.2.1.chip rs.2.1.chip ∧
    rs.2.1.chip.csHigh = true ∧ rs.2.1.chip.spiMode = true := by
  intro ri rs
  cases hg : (op.plan wi.shadow).guard with
  | some e =>
    have e1 := runOp_refused (.i2c dev) noFaults wi op e hg
    have e2 := runOp_refused .spi noFaults ws op e (hsh ▸ hg)
    rw [show ri = _ from e1, show rs = _ from e2]
    exact ⟨rfl, rfl, hsh, hchip, hcs, hsm⟩
  | none =>
    obtain ⟨a1, a2, a3, a4, _⟩ := runOp_clean (.i2c dev) wi (fun h => nomatch h) op _ (show op.plan wi.shadow = ⟨none, _⟩ by rw [← hg])
    obtain ⟨b1, b2, b3, b4, b5⟩ := runOp_clean .spi ws (fun _ => ⟨hcs, hsm⟩) op _ (show op.plan ws.shadow = ⟨none, _⟩ by rw [← hsh, ← hg])
    obtain ⟨c1, c2⟩ := aexec_same (op.plan wi.shadow).acts wi.chip ws.chip wi.shadow [] hchip
    rw [← hsh] at b2 b3 b4
    rw [← c2] at b2 b4
    exact ⟨a1.trans b1.symm, a2.trans b2.symm, a4.trans b4.symm, a3.trans (c1.trans b3.symm), b5 rfl⟩

theorem C14_program (dev : Nat) (ops : List Op) :
    ∀ (wi ws : World), Chip.Same wi.chip ws.chip → wi.shadow = ws.shadow →
      ws.chip.csHigh = true → ws.chip.spiMode = true →
      SameAccesses dev (runProgram (.i2c dev) wi ops).1 (runProgram .spi ws ops).1 ∧
      (runProgram (.i2c dev) wi ops).2.shadow = (runProgram .spi ws ops).2.shadow ∧
      Chip.Same (runProgram (.i2c dev) wi ops).2.chip (runProgram .spi ws ops).2.chip := by
  induction ops with
  | nil => intro wi ws hc hs _ _; exact ⟨rfl, hs, hc⟩
  | cons op r ih =>
    intro wi ws hc hs hcs hsm
    obtain ⟨d, o, s, c, f1, f2⟩ := C14_call dev op wi ws hc hs hcs hsm
    obtain ⟨a1, a2, a3⟩ := ih _ _ c s f1 f2
    refine ⟨?_, a2, a3⟩
    unfold SameAccesses at a1 ⊢
    simp only [runProgram, List.map_cons]
    rw [d, o, a1]

/-- C11 from every reachable state: a fault-free soft reset returns Ok and leaves the recorded
    configuration at the defaults and every register from 0x19 up at its reset value (the
    registers below are read-only status / data) - what a fresh driver records, on a chip at reset -/
theorem reset_reachable (t : Transport) (w : World) (hw : WInv t w) :
    let r := runOp t noFaults w .softReset
    r.2.2 = .ok "" ∧ r.2.1.shadow = shadowDefault ∧
    (∀ x, r.2.1.chip.regs x = if x ≥ 0x19 then DS.resetVal x else w.chip.regs x) ∧
    r.2.1.chip.pos = w.chip.pos ∧ r.2.1.chip.neg = w.chip.neg ∧ r.2.1.chip.fifo = w.chip.fifo ∧
    WInv t r.2.1 := by
  intro r
  have hstep : WInv t r.2.1 :=
    reach_step t noFaults w .softReset hw (runOp_cases (motive := fun r => onlyDataFailures r.1 = true) t noFaults w _
      (fun _ _ => rfl) (fun _ _ h => h ▸ (exec_clean t _ _ _).1))
  obtain ⟨-, hout, hch, hsh, -⟩ := runOp_clean t w hw.2 .softReset _ rfl
  simp only [aexec, Chip.write, cmd_SoftReset, applyEff, if_true] at hch hsh
  refine ⟨hout, hsh, ?_, hch.2.1, hch.2.2.1, hch.2.2.2, hstep⟩
  intro x; rw [hch.1]

/-- C11 for whole programs, from every reachable state: after the fault-free reset every further
    program - any operations, any fault schedules - produces exactly the journals and outcomes,
    and ends in exactly the state, that a driver with the default recorded configuration (as a
    constructor leaves it) produces on that chip, whose configuration registers hold their power-on
    values -/
theorem C11_program (t : Transport) (w : World) (hw : WInv t w) (prog : List (Op × (Nat → Bool))) :
    let r := runOp t noFaults w .softReset
    (runProg t r.2.1 prog).1 = (runProg t { chip := r.2.1.chip, shadow := shadowDefault } prog).1 ∧
    (prog ≠ [] → (runProg t r.2.1 prog).2 = (runProg t { chip := r.2.1.chip, shadow := shadowDefault } prog).2) ∧
    (∀ x ∈ DS.cfgAddrs, r.2.1.chip.regs x = DS.resetVal x) := by
  intro r
  obtain ⟨_, hsh, hregs, _⟩ := reset_reachable t w hw
  refine ⟨(C11_indist t prog r.2.1 hsh).1, (C11_indist t prog r.2.1 hsh).2, ?_⟩
  intro x hx
  have := (cfg_range x hx).1
  rw [hregs x]; simp [this]

/-- what a run RECORDS it also WROTE: wherever the recorded configuration after the abstract run
    differs from the one before, its new value is one of the recorded writes of the list -/
theorem recorded_cw (acts : List Act) (hnr : NoReset acts) :
    ∀ (c : Chip) (sh : Regs) (reads : List (List Byte)) (a : Nat),
      (aexec c sh acts reads).2.1 a ≠ sh a → (⟨a, (aexec c sh acts reads).2.1 a⟩ : W) ∈ cw acts := by
  intro c sh reads a
  rw [aexec_shadow, recordOf_cw hnr]
  exact applyWrites_mem sh (cw acts) a

theorem cw_sub_okWrites (acts : List Act) : ∀ w ∈ cw acts, w ∈ okWrites (acts.map Act.acc) := by
  induction acts with
  | nil => intro w hw; cases hw
  | cons act rest ih =>
    intro w hw
    rcases act with ⟨x, v, _ | _ | _⟩ | _ | _
    case wr.commit =>
      rcases List.mem_cons.mp hw with h | h
      · exact List.mem_cons.mpr (.inl h)
      · exact List.mem_cons_of_mem _ (ih w h)
    case wr.none | wr.reset => exact List.mem_cons_of_mem _ (ih w hw)
    all_goals exact ih w hw

/-- `P.Recorded` (judged on the crate under C12 / C13) for every builder request and the self
    test, fault-free, over either transport: the journal decodes to the planned accesses
    (`C12_exact` / `C13_exact`) and every recorded change is one of its acknowledged writes -/
theorem C12_recorded (t : Transport) (w : World) (hw : WInv t w) (op : Op)
    (hop : (∃ q, op = .config q) ∨ op = .selfTest) (hg : (op.plan w.shadow).guard = none) :
    let r := runOp t noFaults w op
    decode t r.1 = some ((op.plan w.shadow).acts.map Act.acc) ∧
    P.Recorded w.shadow r.2.1.shadow (okWrites ((op.plan w.shadow).acts.map Act.acc)) := by
  intro r
  have hnr : NoReset (op.plan w.shadow).acts :=
    plan_noReset w.shadow op (by rcases hop with ⟨q, rfl⟩ | rfl <;> exact Op.noConfusion)
  obtain ⟨hdec, -, -, hsh, -⟩ := runOp_clean t w hw.2 op _ (show op.plan w.shadow = ⟨none, _⟩ by rw [← hg])
  refine ⟨hdec, ?_⟩
  intro a _ hne
  rw [hsh] at hne ⊢
  exact cw_sub_okWrites _ _ (recorded_cw _ hnr w.chip w.shadow [] a hne)

/-- C16, the whole sentence: construct a driver, run ANY history of calls in which any data
    operations fail (each call with its own schedule), then make a fault-free configuration
    request that the builder accepts: it returns Ok and the device holds exactly what was
    requested (`P.C01`, `P.C02`) - no needed write is skipped; and `get_data()` uses the range
    the device really has -/
theorem C16_recovery (dev : Nat) (chip : Chip) (c : Ctor) (h : List (Op × (Nat → Bool)))
    (hreset : ∀ x ∈ DS.cfgAddrs, chip.regs x = DS.resetVal x) (hcs : chip.csHigh = true)
    (hd : DataFaultsOnly (c.transport dev) (runCtor dev noFaults chip c).2.1 h)
    (q : Request) (ws : List W) :
    let t := c.transport dev
    let w := runHistory t (runCtor dev noFaults chip c).2.1 h
    q.script w.shadow = .ok ws →
      (runOp t noFaults w (.config q)).2.2 = .ok "" ∧
      P.C01 q w.chip.regs (runOp t noFaults w (.config q)).2.1.chip.regs ∧
      P.C02 q w.chip.regs (runOp t noFaults w (.config q)).2.1.chip.regs ∧
      (runOp t noFaults w .getData).2.2 = .ok (expectScaled w.chip.regs (w.chip.burst 4 6)) := by
  intro t w hs
  have hw : WInv t w := reachable dev chip c h hreset hcs hd
  obtain ⟨a, b, c', _⟩ := config_reachable t w hw q ws hs
  exact ⟨a, b, c', (data_reachable t w hw).1⟩

/-- C20 for histories: after any history of calls over SPI in which only data operations fail,
    chip-select is high and the chip is in SPI mode - the next access starts cleanly -/
theorem C20_history (dev : Nat) (chip : Chip) (c : Ctor) (h : List (Op × (Nat → Bool)))
    (hreset : ∀ x ∈ DS.cfgAddrs, chip.regs x = DS.resetVal x) (hcs : chip.csHigh = true)
    (ht : c.transport dev = .spi)
    (hd : DataFaultsOnly (c.transport dev) (runCtor dev noFaults chip c).2.1 h) :
    (runHistory (c.transport dev) (runCtor dev noFaults chip c).2.1 h).chip.csHigh = true ∧
    (runHistory (c.transport dev) (runCtor dev noFaults chip c).2.1 h).chip.spiMode = true :=
  (reachable dev chip c h hreset hcs hd).2 ht

end Thm
end Bma400
