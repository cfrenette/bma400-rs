/-
  C06, second half: the invariant survives every outcome of a configuration call.

  `Safe6 c ws` says that `Inv6` holds in the device state before every write of `ws` and
  after the last one.  `C06_safe`: for EVERY builder, request and coherent state satisfying
  `Inv6` (no reserved bits), the write script of an accepted request is `Safe6` - so
  `Inv6` holds after any prefix of it (`C06_prefix`, a bus failure at any position) and
  after all of it (`C06_accept`).  `C06_reject`: a rejected request performs no bus
  transaction and changes nothing.

  Why `C06_safe` holds: a write puts a block register to its final value or clears bits of an
  enable register, and no clause of `Inv6` looks at two registers of one block; so on the
  registers of each clause a state on the way differs from the initial or from the final state
  only by cleared enable bits, and both satisfy `Inv6` (the final one because the request was
  validated).
-/
import Bma400.Thm.C06
namespace Bma400
namespace Thm
open P

def Safe6 : Regs → List W → Prop
  | c, [] => Inv6 c
  | c, w :: ws => Inv6 c ∧ Safe6 (c.set w.addr w.val) ws

theorem Safe6_head (c : Regs) (ws : List W) (h : Safe6 c ws) : Inv6 c := by
  cases ws with
  | nil => exact h
  | cons w ws => exact h.1

theorem Safe6_take {c : Regs} {ws : List W} (n : Nat) (h : Safe6 c ws) : Inv6 (applyWrites c (ws.take n)) := by
  induction ws generalizing c n with
  | nil => simp [applyWrites]; exact h
  | cons w ws ih =>
    cases n with
    | zero => exact h.1
    | succ n => exact ih n h.2

/-- a family of states that satisfy `Inv6` and that the writes do not leave -/
theorem Safe6_of_inv (I : Regs → Prop) (hI : ∀ c, I c → Inv6 c) (ws : List W)
    (hstep : ∀ c, I c → ∀ w ∈ ws, I (c.set w.addr w.val)) : ∀ c, I c → Safe6 c ws := by
  induction ws with
  | nil => intro c h; exact hI c h
  | cons w ws ih =>
    intro c h
    exact ⟨hI c h, ih (fun c' hc' w' hw' => hstep c' hc' w' (by simp [hw'])) _ (hstep c h w (by simp))⟩

theorem Inv6_set_irrelevant (c : Regs) (a : Nat) (v : Byte) (ha : a ∉ six) : Inv6 (c.set a v) ↔ Inv6 c := by
  apply Inv6_congr
  intro x hx
  exact Regs.set_other c a x v fun e => ha (e ▸ hx)

theorem Safe6_irrelevant (c : Regs) (ws : List W) (h : ∀ w ∈ ws, w.addr ∉ six) (hi : Inv6 c) : Safe6 c ws :=
  Safe6_of_inv Inv6 (fun _ h => h) ws (fun c' hc' w hw => (Inv6_set_irrelevant c' w.addr w.val (h w hw)).mpr hc') c hi

/-- `u` in place of `v` in register `x` changes nothing, or (enable register) only clears bits -/
def Under (x : Nat) (u v : Byte) : Prop := u = v ∨ (x ∈ enableRegs ∧ u &&& ~~~v = 0#8)

theorem Under.sub {x : Nat} {u v : Byte} (h : Under x u v) : u &&& ~~~v = 0#8 :=
  h.elim (fun e => e ▸ sub_refl v) And.right

theorem Under.eq {x : Nat} {u v : Byte} (h : Under x u v) (hx : x ∉ enableRegs) : u = v :=
  h.elim id fun h' => absurd h'.1 hx

/-- the registers each clause of `Inv6` looks at -/
def clauseRegs : List (List Nat) := [[0x1A, 0x20], [0x1A, 0x1F, 0x3F], [0x1A, 0x1F, 0x4A], [0x1A, 0x20, 0x56]]

/-- a clause looks at few registers and can only get truer when enable bits go: `c` satisfies `Inv6`
    if for each clause some state satisfying `Inv6` lies over `c` on the registers of that clause -/
theorem Inv6_clauses {c : Regs} (h : ∀ l ∈ clauseRegs, ∃ g, Inv6 g ∧ ∀ x ∈ l, Under x (c x) (g x)) : Inv6 c := by
  unfold Inv6 P.odr
  refine ⟨?_, ?_, ?_, ?_⟩
  · obtain ⟨g, hg, u⟩ := h [0x1A, 0x20] (by simp [clauseRegs])
    rw [(u 0x1A (by simp)).eq (by decide)]
    exact fun ⟨x, y⟩ => hg.1 ⟨has_sub (u 0x20 (by simp)).sub x, y⟩
  · obtain ⟨g, hg, u⟩ := h [0x1A, 0x1F, 0x3F] (by simp [clauseRegs])
    rw [(u 0x1A (by simp)).eq (by decide), (u 0x3F (by simp)).eq (by decide)]
    exact fun ⟨x, y⟩ => hg.2.1 ⟨has_sub (u 0x1F (by simp)).sub x, y⟩
  · obtain ⟨g, hg, u⟩ := h [0x1A, 0x1F, 0x4A] (by simp [clauseRegs])
    rw [(u 0x1A (by simp)).eq (by decide), (u 0x4A (by simp)).eq (by decide)]
    exact fun ⟨x, y⟩ => hg.2.2.1 ⟨has_sub (u 0x1F (by simp)).sub x, y⟩
  · obtain ⟨g, hg, u⟩ := h [0x1A, 0x20, 0x56] (by simp [clauseRegs])
    rw [(u 0x1A (by simp)).eq (by decide), (u 0x56 (by simp)).eq (by decide)]
    exact fun ⟨x, y⟩ => hg.2.2.2 ⟨has_sub (u 0x20 (by simp)).sub x, y⟩

/-- a state that differs from `chip` only outside the six registers or by cleared enable bits -/
theorem Inv6_below {chip c : Regs} (h : Inv6 chip) (hb : ∀ x ∈ six, Under x (c x) (chip x)) : Inv6 c :=
  Inv6_clauses fun l hl => ⟨chip, h, fun x hx => hb x ((by decide : ∀ l ∈ clauseRegs, ∀ x ∈ l, x ∈ six) l hl x hx)⟩

theorem Inv6_set_sub1F (c : Regs) (v : Byte) (hs : v &&& ~~~(c 0x1F) = 0#8) (h : Inv6 c) : Inv6 (c.set 0x1F v) :=
  Inv6_below h (by simp [six, Under, enableRegs, Regs.set, hs])

theorem Inv6_set_sub20 (c : Regs) (v : Byte) (hs : v &&& ~~~(c 0x20) = 0#8) (h : Inv6 c) : Inv6 (c.set 0x20 v) :=
  Inv6_below h (by simp [six, Under, enableRegs, Regs.set, hs])

/-- every register holds its value in `b`, or its value in `a`, an enable register possibly with bits cleared -/
def Between (a b c : Regs) : Prop := ∀ x, c x = b x ∨ Under x (c x) (a x)

/-- among registers `l` of which at most one (`y`) differs in `a` and `b`, a state between `a` and `b`
    lies under `a` or under `b` -/
theorem Between.on {a b c : Regs} (hc : Between a b c) (l : List Nat) (y : Nat) (hy : ∀ x ∈ l, x ≠ y → a x = b x) :
    (∀ x ∈ l, Under x (c x) (a x)) ∨ (∀ x ∈ l, Under x (c x) (b x)) := by
  have other : ∀ x ∈ l, x ≠ y → Under x (c x) (a x) := fun x hx hne =>
    (hc x).elim (fun e => .inl (e.trans (hy x hx hne).symm)) id
  rcases hc y with e | u
  · refine .inr fun x hx => ?_
    by_cases hne : x = y
    · exact .inl (hne ▸ e)
    · exact hy x hx hne ▸ other x hx hne
  · refine .inl fun x hx => ?_
    by_cases hne : x = y
    · exact hne ▸ u
    · exact other x hx hne

/-- from `a`, writes that put a register to its value in `b` or clear bits of an enable register pass only
    through states between `a` and `b`; these satisfy `Inv6` when `a` and `b` do and no clause looks at two
    registers in which `a` and `b` differ -/
theorem Safe6_between {a b : Regs} (ha : Inv6 a) (hb : Inv6 b) (ws : List W)
    (hone : ∀ l ∈ clauseRegs, ∃ y, ∀ x ∈ l, x ≠ y → a x = b x)
    (hw : ∀ w ∈ ws, w.val = b w.addr ∨ Under w.addr w.val (a w.addr)) : Safe6 a ws := by
  refine Safe6_of_inv (Between a b) (fun c hc => Inv6_clauses fun l hl => ?_) ws (fun c hc w hm x => ?_) a
    fun _ => .inr (.inl rfl)
  · obtain ⟨y, hy⟩ := hone l hl
    exact (hc.on l y hy).elim (fun u => ⟨a, ha, u⟩) (fun u => ⟨b, hb, u⟩)
  · rw [Regs.set_apply]
    split
    · rename_i e; exact e ▸ hw w hm
    · exact hc x

theorem Inv6_final (q : Request) (sh chip : Regs) (hco : Coherent sh chip)
    (hdef : ∀ x ∈ DS.cfgAddrs, DefAt sh x) (hinv : Inv6 chip) (ws : List W) (h : q.script sh = .ok ws) :
    Inv6 (applyWrites chip ws) := by
  have hv := C06_iff q sh chip hco hdef hinv
  rw [h] at hv
  have hid : Inv6 (ideal q chip) := by
    apply Decidable.byContradiction
    intro hn
    obtain ⟨e, he⟩ := hv.1.mpr hn
    simp [outcomeOf] at he
  exact (Inv6_congr (ideal q chip) _ fun a _ => C01_ideal q sh chip hco hdef ws h a).mpr hid

theorem C06_accept (q : Request) (sh chip : Regs) (hco : Coherent sh chip)
    (hdef : ∀ x ∈ DS.cfgAddrs, DefAt sh x) (hinv : Inv6 chip) (ws : List W) (h : q.script sh = .ok ws) :
    Inv6 (applyWrites chip ws) :=
  Inv6_final q sh chip hco hdef hinv ws h

/-- no clause of `Inv6` looks at two registers of one builder's block -/
theorem block_clause (q : Request) : ∀ l ∈ clauseRegs, ∃ y ∈ l, ∀ x ∈ l, x ≠ y → x ∉ q.block := by
  cases q with
  | gen g l => cases g <;> simp only [Request.block] <;> decide
  | _ => simp only [Request.block] <;> decide

/-- the write script of every accepted request keeps `Inv6` at every step: a write puts a block
    register to its final value or clears bits of an enable register (`script_mem`) -/
theorem C06_safe (q : Request) (sh chip : Regs) (hco : Coherent sh chip)
    (hdef : ∀ x ∈ DS.cfgAddrs, DefAt sh x) (hinv : Inv6 chip) (ws : List W) (h : q.script sh = .ok ws) :
    Safe6 chip ws := by
  have heff := C01_effect q sh chip hco ws h
  refine Safe6_between hinv (C06_accept q sh chip hco hdef hinv ws h) ws (fun l hl => ?_) fun w hw => ?_
  · obtain ⟨y, _, hy⟩ := block_clause q l hl
    exact ⟨y, fun x hx hne => by rw [heff x, if_neg (hy x hx hne)]⟩
  · rcases script_mem q sh ws h hw with ⟨hb, hv⟩ | ⟨he, hs⟩
    · exact .inl (by rw [heff, if_pos hb, hv])
    · exact .inr (.inr ⟨he, hco _ (enable_sub_cfg _ he) ▸ hs⟩)

/-- after ANY prefix of the script of an accepted request - a bus failure at any position -
    no interrupt is enabled at an ODR it cannot use -/
theorem C06_prefix (q : Request) (sh chip : Regs) (hco : Coherent sh chip)
    (hdef : ∀ x ∈ DS.cfgAddrs, DefAt sh x) (hinv : Inv6 chip) (ws : List W) (h : q.script sh = .ok ws) (n : Nat) :
    Inv6 (applyWrites chip (ws.take n)) :=
  Safe6_take n (C06_safe q sh chip hco hdef hinv ws h)

/-- a rejected request performs no bus transaction and changes nothing, over either
    transport and whatever the fault schedule -/
theorem C06_reject (q : Request) (t : Transport) (fails : Nat → Bool) (w : World) (e : CfgErr)
    (h : q.script w.shadow = .error e) :
    runOp t fails w (.config q) = ([], { w with idx := 0 }, .err (.cfg e)) := by
  simp [runOp, Op.plan, h]

/-- non-vacuity: tap enabled at 200 Hz, request 100 Hz: rejected with the tap error -/
example : (match (Request.acc [.odr .hz100]).script (shadowDefault.set 0x20 0x04#8) with
    | .error .tapOdr => true | _ => false) = true := by decide

end Thm
end Bma400
