/-
  C09 - numeric settings saturate as documented and reassemble across split registers.

  Two halves.  (1) Thm/C02 (`fifo_spec_wm`, `alp_spec_timeout`, `awk_spec_period`,
  `wkup_spec`, `setRef12_spec`, `gen_spec`, `ori_spec`, `act_spec`) proves, for EVERY
  argument value and every prior register content without reserved bits set (`DefAt`: the
  watermark and reference MSB registers are written outright, which clears their reserved
  bits), that the model of each numeric setter writes the (field, code) pairs of
  `DS.xxxFields`, each through `Field.put`, which changes the field's bits only - so the
  unrelated bits sharing a register with a low part are preserved.  (2) The theorems below show that those codes ARE the documented saturation,
  split across the register pair so that reassembling the parts gives it back, for every
  argument (unbounded `Nat` / `Int`, so in particular all u16 / i16 / u8 / i8 values).
-/
import Bma400.Thm.C02
import Bma400.Thm.C03
namespace Bma400
namespace Thm
open DS

/-- FIFO watermark: min(v, 1024), 8 + 3 bits -/
theorem C09_watermark (v : Nat) :
    satWatermark v % 256 + 256 * (satWatermark v / 256) = min v 1024 ∧
    satWatermark v % 256 < 256 ∧ satWatermark v / 256 < 8 := by
  unfold satWatermark; omega

/-- auto-low-power timeout and auto-wake-up period: min(v, 4095), 8 + 4 bits -/
theorem C09_sat12 (v : Nat) :
    16 * (sat12 v / 16) + sat12 v % 16 = min v 4095 ∧ sat12 v / 16 < 256 ∧ sat12 v % 16 < 16 := by
  unfold sat12; omega

/-- wake-up sample count: clamp(v, 1, 8) - 1 in three bits -/
theorem C09_numSamples (v : Nat) :
    satNumSamples v = max 1 (min v 8) - 1 ∧ satNumSamples v < 8 ∧
    (1 ≤ v → v ≤ 8 → satNumSamples v = v - 1) := by
  unfold satNumSamples; omega

/-- generic / orientation reference: clamp(v, -2048, 2047) as 12-bit two's complement, 8 + 4 bits -/
theorem C09_ref12 (v : Int) :
    sext12 (twos12 (satRef12 v) % 256 + 256 * (twos12 (satRef12 v) / 256)) = max (-2048) (min v 2047) ∧
    twos12 (satRef12 v) % 256 < 256 ∧ twos12 (satRef12 v) / 256 < 16 := by
  simp only [twos12, satRef12]
  refine ⟨?_, by omega, by omega⟩
  apply sext12_eq <;> omega

/-- wake-up reference: 8-bit two's complement, verbatim -/
theorem C09_ref8 (v : Int) (h : -128 ≤ v ∧ v ≤ 127) : sext8 (twos8 v) = v ∧ twos8 v < 256 := by
  simp only [twos8]
  refine ⟨?_, by omega⟩
  apply sext8_eq <;> omega

/-- 16-bit durations: verbatim, MSB / LSB registers -/
theorem C09_duration (d : Nat) (h : d < 65536) : 256 * (d / 256) + d % 256 = d ∧ d / 256 < 256 := by omega

/-- thresholds and 8-bit durations are written verbatim: a full-register field put of the
    byte's value is the byte (any prior content) -/
theorem C09_verbatim (b t : Byte) :
    b &&& ~~~0xFF#8 ||| BitVec.ofNat 8 t.toNat <<< 0 &&& 0xFF#8 = t := (ins_whole 0 t.toNat b).trans (by simp)

/-- the bits outside a field are untouched by `Field.put` (for every field, code and content) -/
theorem C09_preserves (f : Field) (c : Nat) (r : Regs) :
    (f.put c r) f.addr &&& ~~~f.mask = r f.addr &&& ~~~f.mask ∧ ∀ x, x ≠ f.addr → (f.put c r) x = r x := by
  refine ⟨?_, fun x hx => if_neg hx⟩
  simp [Field.put, BitVec.and_or_distrib_right, BitVec.and_assoc]

/-- non-vacuity / examples: 2000 -> 1024 = 0x400; -3000 -> -2048 = 0x800; 4100 -> 4095 -/
example : satWatermark 2000 = 1024 ∧ twos12 (satRef12 (-3000)) = 0x800 ∧ sat12 4100 = 4095 := by decide

end Thm
end Bma400
