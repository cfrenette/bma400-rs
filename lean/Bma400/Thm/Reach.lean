/-
  Reach - the invariants every other theorem assumes hold in EVERY reachable state.

  A call cut by data-operation failures is the abstract run (`aexec`) of a PREFIX of its plan
  (`exec_prefix`, Lemmas/Refine).  The abstract run of any prefix of any plan keeps the invariants
  (`plan_prefix_inv`), hence every history of calls does (`reach`, `reachable`); the `*_reachable`
  theorems are the property theorems with their hypotheses discharged on every reachable state.
-/
import Bma400.Thm.C16
import Bma400.Thm.C06b
import Bma400.Thm.C07
import Bma400.Thm.C08
import Bma400.Thm.C10
import Bma400.Thm.C19
namespace Bma400
namespace Thm
open P R

theorem script_defined (q : Request) (sh : Regs) (hdef : ∀ x ∈ DS.cfgAddrs, DefAt sh x) (ws : List W)
    (h : q.script sh = .ok ws) : ∀ w ∈ ws, w.val &&& ~~~DS.definedMask w.addr = 0#8 := by
  intro w hw
  have hc := script_addr_cfg q sh ws h w hw
  rcases script_vals q sh ws h w hw with hv | hv
  · rw [hv]; exact (C02_target q sh sh (fun _ _ => rfl) hdef w.addr hc).2
  · exact sub_trans hv (hdef w.addr hc)

def ActDef : Act → Prop
  | .wr a v .commit => v &&& ~~~DS.definedMask a = 0#8
  | _ => True

theorem defined_default : ∀ x ∈ DS.cfgAddrs, DefAt shadowDefault x := by unfold DefAt; decide

theorem recorded_defined {acts : List Act} (hd : ∀ a ∈ acts, ActDef a) :
    ∀ sh : Regs, (∀ x ∈ DS.cfgAddrs, DefAt sh x) → ∀ x ∈ DS.cfgAddrs, DefAt (acts.foldl recordOf sh) x := by
  induction acts with
  | nil => intro sh h; exact h
  | cons act rest ih =>
    intro sh h
    refine ih (fun a ha => hd a (by simp [ha])) _ ?_
    rcases act with ⟨a, v, _ | _ | _⟩ | _ | _
    case wr.commit =>
      intro x hx
      unfold DefAt
      rw [recordOf, applyEff, Regs.set_apply]
      split
      · subst x; exact hd _ List.mem_cons_self
      · exact h x hx
    case wr.reset => exact defined_default
    all_goals exact h

/-- the recorded (configuration) writes of an action list -/
def cw : List Act → List W
  | [] => []
  | .wr a v .commit :: r => ⟨a, v⟩ :: cw r
  | _ :: r => cw r

theorem cw_take (acts : List Act) : ∀ n, ∃ m, cw (acts.take n) = (cw acts).take m := by
  induction acts with
  | nil => intro n; exact ⟨0, by simp [cw]⟩
  | cons act rest ih =>
    intro n
    cases n with
    | zero => exact ⟨0, by simp [cw]⟩
    | succ n =>
      obtain ⟨m, hm⟩ := ih n
      rcases act with ⟨a, v, _ | _ | _⟩ | _ | _
      case wr.commit => exact ⟨m + 1, by simp [cw, hm]⟩
      all_goals exact ⟨m, by simpa [cw] using hm⟩

theorem cw_map (ws : List W) : cw (ws.map W.act) = ws := by
  induction ws with
  | nil => rfl
  | cons w r ih => simp [W.act, cw, ih]

def NoReset (acts : List Act) : Prop := ∀ a v, Act.wr a v .reset ∉ acts

theorem noReset_map (ws : List W) : NoReset (ws.map W.act) := by
  intro a v hm
  simp [W.act] at hm

theorem recordOf_cw {acts : List Act} (hnr : NoReset acts) : ∀ r : Regs, acts.foldl recordOf r = applyWrites r (cw acts) := by
  induction acts with
  | nil => intro r; rfl
  | cons act rest ih =>
    intro r
    have h3 : NoReset rest := fun a v hm => hnr a v (by simp [hm])
    rcases act with ⟨a, v, _ | _ | _⟩ | _ | _
    case wr.reset => exact absurd (by simp) (hnr a v)
    all_goals exact ih h3 _

theorem aexec_writes (ws : List W) (hcfg : ∀ w ∈ ws, w.addr ∈ DS.cfgAddrs) (c : Chip) (sh : Regs) (reads : List (List Byte)) :
    (aexec c sh (ws.map W.act) reads).1.regs = applyWrites c.regs ws ∧
    (aexec c sh (ws.map W.act) reads).2.1 = applyWrites sh ws := by
  refine ⟨?_, by rw [aexec_shadow, recordOf_cw (noReset_map ws), cw_map]⟩
  induction ws generalizing c sh with
  | nil => rfl
  | cons w rest ih =>
    simp only [List.map, W.act, aexec, applyWrites, write_commit c _ _ (hcfg w (by simp))]
    exact ih (fun x hx => hcfg x (by simp [hx])) _ _

theorem aexec_inv6 (acts : List Act) (hok : ∀ a ∈ acts, ActOk a) (hnr : NoReset acts) (c : Chip) (sh : Regs)
    (reads : List (List Byte)) (hs : Safe6 c.regs (cw acts)) (n : Nat) :
    Inv6 (aexec c sh (acts.take n) reads).1.regs := by
  obtain ⟨m, hm⟩ := cw_take acts n
  have hok' : ∀ a ∈ acts.take n, ActOk a := fun a ha => hok a (List.mem_of_mem_take ha)
  have hnr' : NoReset (acts.take n) := fun a v hmem => hnr a v (List.mem_of_mem_take hmem)
  have := aexec_cfg (acts.take n) hok' c c.regs sh reads (fun _ _ => rfl)
  rw [recordOf_cw hnr', hm] at this
  rw [Inv6_congr _ _ (fun a ha => (this a (six_sub_cfg a ha)).symm)]
  exact Safe6_take m hs

theorem st_power : ∀ b : Byte, b &&& ~~~0xE3#8 = 0#8 → acc0_with_power_mode b .normal &&& ~~~0xE3#8 = 0#8 := by
  decide +kernel

/-- the set-up clears bits of the saved bytes or writes constants, the clean-up writes the saved bytes back -/
theorem selftest_def (sh : Regs) (hdef : ∀ x ∈ DS.cfgAddrs, DefAt sh x) : ∀ a ∈ selfTestActs sh, ActDef a := by
  simp only [selfTestActs, List.forall_mem_cons, forall_mem_nil_iff, ActDef, and_true, true_and]
  exact ⟨by decide, by decide, clr_sub (hdef 0x2D (by decide)),
    clr_sub (clr_sub (clr_sub (hdef 0x26 (by decide)))), st_power _ (hdef 0x19 (by decide)), by decide,
    hdef 0x19 (by decide), hdef 0x1A (by decide), hdef 0x1F (by decide), hdef 0x20 (by decide), hdef 0x2D (by decide),
    hdef 0x26 (by decide)⟩

theorem Inv6_quiet {c : Regs} (h1 : c 0x1F = 0#8) (h2 : c 0x20 = 0#8) : Inv6 c := by
  unfold Inv6; rw [h1, h2]; simp [has]

/-- both interrupt-enable registers are cleared first and restored last: the states in between have no interrupt
    enabled, the others hold sub-values of the device's -/
theorem selftest_safe (sh chip : Regs) (hco : Coherent sh chip) (hinv : Inv6 chip) :
    Safe6 chip (cw (selfTestActs sh)) := by
  have c1A : sh 0x1A = chip 0x1A := hco 0x1A (by decide)
  have c1F : sh 0x1F = chip 0x1F := hco 0x1F (by decide)
  have c20 : sh 0x20 = chip 0x20 := hco 0x20 (by decide)
  refine ⟨hinv, Inv6_below hinv ?_, Inv6_quiet ?_ ?_, Inv6_quiet ?_ ?_, Inv6_quiet ?_ ?_, Inv6_quiet ?_ ?_,
    Inv6_quiet ?_ ?_, Inv6_quiet ?_ ?_, Inv6_quiet ?_ ?_, Inv6_below hinv ?_, Inv6_below hinv ?_, Inv6_below hinv ?_,
    Inv6_below hinv ?_⟩
  all_goals simp [six, Under, enableRegs, Regs.set, trunc, c1A, c1F, c20]

theorem Inv6_reset (r : Regs) : Inv6 (fun x => if x ≥ 0x19 then DS.resetVal x else r x) := by
  unfold Inv6
  simp [DS.resetVal, has]

/-- the three invariants the property theorems assume: the recorded configuration equals the
    device (`Coherent`), carries no reserved bit, and the device satisfies the ODR rule -/
structure AInv (c sh : Regs) : Prop where
  co : Coherent sh c
  de : ∀ x ∈ DS.cfgAddrs, DefAt sh x
  i6 : Inv6 c

theorem plan_def (sh : Regs) (hdef : ∀ x ∈ DS.cfgAddrs, DefAt sh x) (op : Op) : ∀ a ∈ (op.plan sh).acts, ActDef a := by
  cases op with
  | config q => exact config_acts q sh (script_defined q sh hdef)
  | readFifo n =>
    simp only [Op.plan]
    split <;> simp only [List.forall_mem_cons, forall_mem_nil_iff, and_true, ActDef]
  | selfTest => exact selftest_def sh hdef
  | softReset => simp only [Op.plan, List.forall_mem_cons, forall_mem_nil_iff, and_true, ActDef]
  | _ => exact fun _ h => List.mem_singleton.mp h ▸ trivial

/-- only the soft reset replaces the recorded configuration wholesale -/
theorem plan_noReset (sh : Regs) (op : Op) (hr : op ≠ .softReset) : NoReset (op.plan sh).acts := by
  intro a v
  cases op with
  | softReset => exact absurd rfl hr
  | config q =>
    simp only [Op.plan]
    split
    · simp
    · exact noReset_map _ a v
  | readFifo k => simp only [Op.plan]; split <;> simp
  | _ => simp [Op.plan, selfTestActs]

theorem plan_safe (sh : Regs) (c : Regs) (h : AInv c sh) (op : Op) : Safe6 c (cw (op.plan sh).acts) := by
  cases op with
  | config q =>
    simp only [Op.plan]
    split
    · exact h.i6
    · rename_i ws hs
      rw [cw_map]
      exact C06_safe q sh c h.co h.de h.i6 ws hs
  | selfTest => exact selftest_safe sh c h.co h.i6
  | readFifo k => simp only [Op.plan]; split <;> exact h.i6
  | _ => exact h.i6

theorem plan_prefix_inv (op : Op) (c : Chip) (sh : Regs) (h : AInv c.regs sh) (n : Nat) (reads : List (List Byte)) :
    AInv (aexec c sh ((op.plan sh).acts.take n) reads).1.regs (aexec c sh ((op.plan sh).acts.take n) reads).2.1 := by
  have hok : ∀ a ∈ (op.plan sh).acts.take n, ActOk a := fun a ha => plan_ok sh op a (List.mem_of_mem_take ha)
  have hdf : ∀ a ∈ (op.plan sh).acts.take n, ActDef a := fun a ha => plan_def sh h.de op a (List.mem_of_mem_take ha)
  refine ⟨aexec_coherent _ hok c sh reads h.co, by rw [aexec_shadow]; exact recorded_defined hdf sh h.de, ?_⟩
  by_cases hr : op = .softReset
  · subst hr
    simp only [Op.plan]
    rcases n with _ | _ | n
    · exact h.i6
    · simp [aexec, Chip.write, cmd_SoftReset]; exact Inv6_reset _
    · simp [aexec, Chip.write, cmd_SoftReset]; exact Inv6_reset _
  · exact aexec_inv6 _ (plan_ok sh op) (plan_noReset sh op hr) c sh reads (plan_safe sh c.regs h op) n

/-- the invariant of the concrete world: the three abstract invariants, and over SPI the
    interface is idle (chip-select high, chip in SPI mode) -/
def WInv (t : Transport) (w : World) : Prop :=
  AInv w.chip.regs w.shadow ∧ (t = .spi → w.chip.csHigh = true ∧ w.chip.spiMode = true)

/-- ONE API CALL, ANY OUTCOME: whatever the operation, whatever the schedule of data-operation
    failures (Ok, rejected, bus error anywhere), the invariants hold afterwards -/
theorem reach_step (t : Transport) (fails : Nat → Bool) (w : World) (op : Op) (h : WInv t w)
    (hd : onlyDataFailures (runOp t fails w op).1 = true) : WInv t (runOp t fails w op).2.1 := by
  refine runOp_cases (motive := fun r => onlyDataFailures r.1 = true → WInv t r.2.1) t fails w op (fun _ _ _ => h)
    (fun _ r hr hj => ?_) hd
  subst hr
  obtain ⟨n, _, p1, p2, p3, _⟩ := exec_prefix t fails (op.plan w.shadow).acts (plan_wf _ op) { w with idx := 0 } w.chip []
    (Chip.Same.refl _) h.2 hj
  refine ⟨?_, p3⟩
  rw [p1.1, p2]
  exact plan_prefix_inv op w.chip w.shadow h.1 n []

/-- a history: operations, each with its own fault schedule -/
def runHistory (t : Transport) : World → List (Op × (Nat → Bool)) → World
  | w, [] => w
  | w, (op, f) :: r => runHistory t (runOp t f w op).2.1 r

/-- no chip-select PIN operation fails anywhere in the history (data operations may) -/
def DataFaultsOnly (t : Transport) : World → List (Op × (Nat → Bool)) → Prop
  | _, [] => True
  | w, (op, f) :: r => onlyDataFailures (runOp t f w op).1 = true ∧ DataFaultsOnly t (runOp t f w op).2.1 r

instance decDFO (t : Transport) : (w : World) → (h : List (Op × (Nat → Bool))) → Decidable (DataFaultsOnly t w h)
  | _, [] => isTrue trivial
  | w, (op, f) :: r =>
    have := decDFO t (runOp t f w op).2.1 r
    by unfold DataFaultsOnly; exact inferInstance

/-- EVERY HISTORY of API calls - configuration requests accepted, rejected or cut by a bus
    error, self tests, resets, reads, commands, in any order and number - keeps the invariants -/
theorem reach (t : Transport) (h : List (Op × (Nat → Bool))) :
    ∀ w, WInv t w → DataFaultsOnly t w h → WInv t (runHistory t w h) := by
  induction h with
  | nil => intro w hw _; exact hw
  | cons x r ih =>
    intro w hw hd
    obtain ⟨op, f⟩ := x
    exact ih _ (reach_step t f w op hw hd.1) hd.2

/-- ... starting from a freshly constructed driver on a chip at its power-on values -/
theorem reach_init (dev : Nat) (chip : Chip) (c : Ctor)
    (hreset : ∀ x ∈ DS.cfgAddrs, chip.regs x = DS.resetVal x) (hcs : chip.csHigh = true)
    (hd : onlyDataFailures (runCtor dev noFaults chip c).1 = true)
    (hsh : (runCtor dev noFaults chip c).2.1.shadow = shadowDefault) :
    WInv (c.transport dev) (runCtor dev noFaults chip c).2.1 := by
  obtain ⟨g1, g2⟩ := C16_init dev noFaults chip c hreset hcs hd (fun _ => rfl)
  refine ⟨⟨g1, ?_, ?_⟩, g2⟩
  · rw [hsh]; exact defined_default
  · rw [Inv6_congr shadowDefault _ (fun a ha => by rw [← g1 a (six_sub_cfg a ha), hsh])]
    exact (by decide : Inv6 shadowDefault)

/-- the whole statement: construct, then any history -/
theorem reachable (dev : Nat) (chip : Chip) (c : Ctor) (h : List (Op × (Nat → Bool)))
    (hreset : ∀ x ∈ DS.cfgAddrs, chip.regs x = DS.resetVal x) (hcs : chip.csHigh = true)
    (hd : DataFaultsOnly (c.transport dev) (runCtor dev noFaults chip c).2.1 h) :
    WInv (c.transport dev) (runHistory (c.transport dev) (runCtor dev noFaults chip c).2.1 h) :=
  reach _ h _ (reach_init dev chip c hreset hcs (runCtor_clean dev chip c).1 (runCtor_clean dev chip c).2.2) hd

/-- C01 / C02 / C07 / C08 for the CONCRETE call, in every reachable state: if the builder's
    validation accepts the request, the fault-free call returns Ok, the device afterwards holds
    exactly the datasheet-level target on the block and its previous content everywhere else
    (`P.C01`, `P.C02`), the script is minimal (`C08W`) and rewrites parameters only while their
    interrupt is off (`P.C07`), and the recorded configuration followed every write -/
theorem config_reachable (t : Transport) (w : World) (hw : WInv t w) (q : Request) (ws : List W)
    (h : q.script w.shadow = .ok ws) :
    let r := runOp t noFaults w (.config q)
    r.2.2 = .ok "" ∧
    P.C01 q w.chip.regs r.2.1.chip.regs ∧ P.C02 q w.chip.regs r.2.1.chip.regs ∧
    C08W q.block (DS.Request.spec q w.chip.regs) w.chip.regs ws ∧
    P.C07 w.chip.regs ws ∧
    r.2.1.shadow = applyWrites w.shadow ws := by
  intro r
  obtain ⟨-, hout, hch, hsh, -⟩ := runOp_clean t w hw.2 (.config q) (ws.map W.act) (by simp [Op.plan, h])
  obtain ⟨a1, a2⟩ := aexec_writes ws (script_addr_cfg q w.shadow ws h) w.chip w.shadow []
  have e1 : r.2.1.chip.regs = applyWrites w.chip.regs ws := by rw [hch.1, a1]
  have spec := C01_spec q w.shadow w.chip.regs hw.1.co hw.1.de ws h
  refine ⟨hout, ?_, ?_, ?_, ?_, by rw [hsh, a2]⟩
  · rw [e1]; exact spec.1
  · rw [e1]; exact spec.2
  · exact C08_spec q w.shadow w.chip.regs hw.1.co hw.1.de ws h
  · exact C07_script q w.shadow w.chip.regs hw.1.co ws h

/-- a fault-free read-only call in a reachable state: result of the abstract run, device and
    recorded configuration untouched -/
theorem read_reachable (t : Transport) (w : World) (hw : WInv t w) (op : Op) (a n : Nat)
    (hplan : op.plan w.shadow = ⟨none, [.rd a n]⟩) :
    let r := runOp t noFaults w op
    r.2.2 = finishOutcome (op.finish w.shadow [w.chip.burst a n]) ∧
    Chip.Same r.2.1.chip w.chip ∧ r.2.1.shadow = w.shadow := by
  have h := runOp_clean t w hw.2 op _ hplan
  exact ⟨h.outcome, h.chip, h.shadow⟩

/-- C03 in every reachable state, over either transport: `get_data()` returns the 12-bit
    two's-complement samples times the range THE DEVICE holds; nothing is changed -/
theorem data_reachable (t : Transport) (w : World) (hw : WInv t w) :
    (runOp t noFaults w .getData).2.2 = .ok (expectScaled w.chip.regs (w.chip.burst 4 6)) ∧
    (runOp t noFaults w .getUnscaled).2.2 = .ok (expectUnscaled (w.chip.burst 4 6)) := by
  have h1 := (read_reachable t w hw .getData 4 6 rfl).1
  have h2 := (read_reachable t w hw .getUnscaled 4 6 rfl).1
  have hb : w.chip.burst 4 6 = [w.chip.dataAt 4, w.chip.dataAt 5, w.chip.dataAt 6, w.chip.dataAt 7, w.chip.dataAt 8,
      w.chip.dataAt 9] := by simp [Chip.burst, List.range, List.range.loop]
  constructor
  · rw [h1, hb]
    simp only [Op.finish, C03_scaled w.shadow w.chip.regs (hw.1.co 0x1A (by decide)), Option.map, finishOutcome, expectScaled]
  · rw [h2, hb]
    simp only [Op.finish, C03_unscaled, Option.map, finishOutcome, expectUnscaled]

/-- C19 in every reachable state: the FIFO read is refused, without bus traffic, exactly when
    THE DEVICE has the read circuit disabled; otherwise one burst of the buffer length -/
theorem fifo_reachable (t : Transport) (w : World) (hw : WInv t w) (n : Nat) :
    (has (w.chip.regs 0x29) fpwr_READ_DISABLE = true →
      runOp t noFaults w (.readFifo n) = ([], { w with idx := 0 }, .err (.cfg .fifoPwr))) ∧
    (has (w.chip.regs 0x29) fpwr_READ_DISABLE = false →
      (runOp t noFaults w (.readFifo n)).2.2 = .ok (fmtFifo (w.chip.burst 0x14 n))) := by
  rw [← hw.1.co 0x29 (by decide)]
  exact ⟨C19_refused t noFaults w n,
    fun h => by rw [(read_reachable t w hw _ 0x14 n (C19_plan _ n h)).1]; rfl⟩

/-- C10 in every reachable state, over either transport: the fault-free self test satisfies
    `P.C10` (procedure, settling, verdict, every register restored) and leaves the recorded
    configuration as it was -/
theorem selftest_reachable (t : Transport) (w : World) (hw : WInv t w) :
    let r := runOp t noFaults w .selfTest
    P.C10 w.chip.regs r.2.1.chip.regs w.chip.pos w.chip.neg ((selfTestActs w.shadow).map Act.acc) r.2.2 ∧
    (∀ a ∈ DS.cfgAddrs, r.2.1.shadow a = w.shadow a) := by
  intro r
  obtain ⟨-, k1, k2, k3, -⟩ := runOp_clean t w hw.2 .selfTest _ rfl
  constructor
  · rw [k1, k2.1]; exact C10_abstract w.chip w.shadow hw.1.co
  · intro a _
    rw [k3]
    exact (selfTest_final w.chip w.shadow a).2

/-- non-vacuity: a concrete history over I2C - 200 Hz + tap interrupt, a self test cut by a bus
    error at its 8th raw operation, a request for 100 Hz (accepted: the cut self test has left the
    tap interrupt off), a reset - satisfies every hypothesis -/
def exChip : Chip := Chip.powerOn (fun _ => 0x90#8) [] [] []
def exHistory : List (Op × (Nat → Bool)) :=
  [(.config (.acc [.odr .hz200]), noFaults), (.config (.int [.sTap true]), noFaults),
   (.selfTest, fun i => i == 7), (.config (.acc [.odr .hz100]), noFaults), (.softReset, noFaults)]

example : WInv (.i2c 0x14) (runHistory (.i2c 0x14) (runCtor 0x14 noFaults exChip .newI2c).2.1 exHistory) :=
  reachable 0x14 exChip .newI2c exHistory (by decide) (by decide) (by decide)

end Thm
end Bma400
