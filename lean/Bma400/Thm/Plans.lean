/-
  Plans - the PLAN of every API function of src/lib.rs and of the three constructors (src/i2c.rs,
  src/spi.rs): its guard and the register-level accesses it makes, in order - TRANSLATED from the
  source on every run (tools/gen_builders.py --api -> Bma400/GeneratedApi.lean; the same symbolic
  executor as for the builders, with everything that is only data - decoded results, arithmetic on
  bytes read - left opaque, and the requirement that no bus traffic and no recorded configuration
  may depend on it) IS the model's `Op.plan` / `Ctor.acts`, for every recorded configuration.

  This covers: which register each getter reads and how many bytes, in ONE burst (C17, C03); the
  FIFO guard "refused without bus traffic exactly when the recorded FIFO power configuration has
  the read circuit disabled, else one burst of exactly the buffer's length from 0x14" (C19); the
  commands (C19); the soft reset = command, recorded configuration replaced by the defaults at once,
  then the event read (C11); the whole self-test procedure - six set-up writes (each recorded),
  2 ms, positive excitation, 50 ms, read, negative excitation, 50 ms, read, excitation off, 50 ms,
  six restoring writes of the configuration saved BEFORE the test (C10); the constructors' reads
  and the 3-wire IF_CONF write (C18).

  The translator also enforces, for these functions and for the builders, that the result of every
  bus operation is propagated with `?` at once (exit code 4 otherwise: a swallowed, deferred or
  overridden bus error is what C15 forbids) - the interpreter's "stop at the first failure".
-/
import Bma400.GeneratedApi
namespace Bma400
namespace Thm
open Generated

theorem api_getters (sh : Regs) :
    Op.plan sh .getId = Api.get_id sh ∧ Op.plan sh .getCmdError = Api.get_cmd_error sh ∧
    Op.plan sh .getStatus = Api.get_status sh ∧ Op.plan sh .getUnscaled = Api.get_unscaled_data sh ∧
    Op.plan sh .getData = Api.get_data sh ∧ Op.plan sh .getSensorClock = Api.get_sensor_clock sh ∧
    Op.plan sh .getResetStatus = Api.get_reset_status sh ∧ Op.plan sh .getIntStatus0 = Api.get_int_status0 sh ∧
    Op.plan sh .getIntStatus1 = Api.get_int_status1 sh ∧ Op.plan sh .getIntStatus2 = Api.get_int_status2 sh ∧
    Op.plan sh .getFifoLen = Api.get_fifo_len sh ∧ Op.plan sh .getStepCount = Api.get_step_count sh ∧
    Op.plan sh .getStepActivity = Api.get_step_activity sh ∧ Op.plan sh .getRawTemp = Api.get_raw_temp sh ∧
    Op.plan sh .getTempCelsius = Api.get_temp_celsius sh := by
  simp [Op.plan, Api.get_id, Api.get_cmd_error, Api.get_status, Api.get_unscaled_data, Api.get_data,
    Api.get_sensor_clock, Api.get_reset_status, Api.get_int_status0, Api.get_int_status1, Api.get_int_status2,
    Api.get_fifo_len, Api.get_step_count, Api.get_step_activity, Api.get_raw_temp, Api.get_temp_celsius]

theorem api_fifo (sh : Regs) (n : Nat) :
    Op.plan sh (.readFifo n) = Api.read_fifo_frames sh n ∧ Op.plan sh .flushFifo = Api.flush_fifo sh ∧
    Op.plan sh .clearStepCount = Api.clear_step_count sh := by
  simp [Op.plan, Api.read_fifo_frames, Api.flush_fifo, Api.clear_step_count]

theorem api_reset (sh : Regs) : Op.plan sh .softReset = Api.soft_reset sh := by
  simp [Op.plan, Api.soft_reset]

theorem api_selftest (sh : Regs) : Op.plan sh .selfTest = Api.perform_self_test sh := rfl

theorem api_ctors (sh : Regs) :
    Ctor.acts .newI2c = (Api.new_i2c sh).acts ∧ Ctor.acts .newSpi = (Api.new_spi sh).acts ∧
    Ctor.acts .newSpi3 = (Api.new_spi_3wire sh).acts ∧
    (Api.new_i2c sh).guard = none ∧ (Api.new_spi sh).guard = none ∧ (Api.new_spi_3wire sh).guard = none := by
  simp [Ctor.acts, Api.new_i2c, Api.new_spi, Api.new_spi_3wire, flag, uni]

/-- all 23 functions were translated, each with at least one access -/
theorem api_counts : Api.actCounts.length = 23 ∧ Api.actCounts.all (0 < ·) = true := by decide

end Thm
end Bma400
