/-
  C17 - status, interrupt-status and counter getters decode every register value.

  For every content `c` of the read-only registers and every getter:
  * `C17_plan`   the getter issues exactly one burst read, of the datasheet
                 register and length (`P.getterSpecI`), and nothing else;
  * `C17_value`  the value it returns is the datasheet decoding of the bytes
                 served (for the three 2-bit fields the reserved code 3 is left
                 free - the statement then only says that a value is returned);
  * `C17_run` (Thm/Getters.lean)  the same end to end through the interpreter and both
                 transports, in the exact form `P.C17` that `judge` evaluates on
                 the real crate.
  All quantifiers range over all 2^8 / 2^16 / 2^24 register contents.
-/
import Bma400.Props
namespace Bma400
namespace Thm
open P

/-- the bytes a chip holding registers `c` serves for a burst read of n bytes at a -/
def regBurst (c : Regs) (a n : Nat) : List Byte := (List.range n).map (fun i => c (a + i))

/-- what the getters have in common, by one case analysis: a single burst read, not of the
    acceleration data or the FIFO port, whose result is the formatted list `Op.ints` -/
theorem getter_facts (c sh : Regs) (op : Op) (a n : Nat) (e : Option (List Int))
    (h : getterSpecI c op = some (a, n, e)) :
    op.plan sh = ⟨none, [.rd a n]⟩ ∧ (a + n ≤ 4 ∨ (10 ≤ a ∧ a ≠ 0x14)) ∧
    ∀ reads, op.finish sh reads = (op.ints sh reads).map (fun l => .ok (fmtInts l)) := by
  cases op <;> simp only [getterSpecI, Option.some.injEq, Prod.mk.injEq, reduceCtorEq] at h <;>
    (obtain ⟨rfl, rfl, -⟩ := h; exact ⟨rfl, by omega, fun _ => rfl⟩)

theorem C17_plan (c sh : Regs) (op : Op) (a n : Nat) (e : Option (List Int))
    (h : getterSpecI c op = some (a, n, e)) : op.plan sh = ⟨none, [.rd a n]⟩ :=
  (getter_facts c sh op a n e h).1

/-- the driver tests bit `i` by masking with `1 << i`; the datasheet reads it as `b / 2^i % 2` -/
theorem b2i_bit (b : Byte) (i : Nat) (hi : i < 8) : T.b2i ((b &&& 1#8 <<< i) != 0#8) = bitN b i := by
  rw [← BitVec.twoPow]
  simp only [BitVec.and_twoPow, T.b2i, bitN, ← BitVec.testBit_toNat, Nat.testBit_eq_decide_div_mod_eq]
  by_cases h : b.toNat / 2 ^ i % 2 = 1 <;> simp [h, (by decide : ∀ i < 8, BitVec.twoPow 8 i ≠ 0#8) i hi]

theorem and3 : ∀ b : Byte, (b &&& 0x03#8).toNat = b.toNat % 4 := by decide +kernel
theorem and7 : ∀ b : Byte, (b &&& 0x07#8).toNat = b.toNat % 8 := by decide +kernel
theorem and6_shr : ∀ b : Byte, ((b &&& 0x06#8) >>> 1).toNat = b.toNat / 2 % 4 := by decide +kernel

/-- the three 2-bit fields are decoded by `match code with | 0 => 0 | 1 => 1 | _ => 2`: the code
    itself unless it is the reserved 3 -/
theorem code3 (f : Nat → Nat) (h0 : f 0 = 0) (h1 : f 1 = 1) (h2 : f 2 = 2) {n : Nat} (h : n % 4 ≠ 3) :
    f (n % 4) = n % 4 := by
  have : n % 4 = 0 ∨ n % 4 = 1 ∨ n % 4 = 2 := by omega
  rcases this with e | e | e <;> rw [e] <;> assumption

theorem statusPowerMode_eq (b : Byte) (h : b.toNat / 2 % 4 ≠ 3) : T.statusPowerMode b = b.toNat / 2 % 4 := by
  rw [T.statusPowerMode, and6_shr]
  exact code3 (fun n => match n with | 0 => 0 | 1 => 1 | _ => 2) rfl rfl rfl h

theorem stepIntStat_eq (b : Byte) (h : b.toNat % 4 ≠ 3) : T.stepIntStat b = b.toNat % 4 := by
  rw [T.stepIntStat, and3]
  exact code3 (fun n => match n with | 0 => 0 | 1 => 1 | _ => 2) rfl rfl rfl h

/-- `decodeActivity` has the body of `stepIntStat` -/
theorem decodeActivity_eq (b : Byte) (h : b.toNat % 4 ≠ 3) : T.decodeActivity b = b.toNat % 4 := stepIntStat_eq b h

theorem temp_dec : ∀ b : Byte, T.i8of b = DS.sext8 b.toNat := by decide +kernel
theorem status_total : ∀ b : Byte, (T.decodeStatus b).length = 4 := fun _ => rfl

/-- FIFO length: the low 11 bits of the little-endian pair - all 65 536 pairs, by arithmetic -/
theorem fifoLen_dec (b0 b1 : Byte) : T.fifoLen b0 b1 = (b0.toNat + 256 * b1.toNat) % 2048 := by
  unfold T.fifoLen
  rw [and7]
  omega

theorem C17_value (c sh : Regs) (op : Op) (a n : Nat) (e : Option (List Int))
    (h : getterSpecI c op = some (a, n, e)) :
    ∃ v, op.ints sh [regBurst c a n] = some v ∧ ∀ x ∈ e, v = x := by
  cases op <;> simp only [getterSpecI, Option.some.injEq, Prod.mk.injEq, reduceCtorEq] at h <;>
    obtain ⟨rfl, rfl, rfl⟩ := h <;> refine ⟨_, rfl, fun x hx => ?_⟩
  -- nothing is claimed of a field that holds the reserved code
  case' getStatus | getIntStatus1 | getStepActivity => obtain ⟨_, hx⟩ := Option.mem_ite_none_left.mp hx
  all_goals
    cases hx
    -- each datasheet bit `bitN b i` becomes the mask test `b &&& 1 <<< i`, and `1 <<< i` is evaluated
    simp (disch := omega) only [Nat.add_zero, T.decodeStatus, T.decodeIntStatus0, T.decodeIntStatus1, T.decodeIntStatus2,
      T.bit, ← b2i_bit, BitVec.reduceHShiftLeft, statusPowerMode_eq, stepIntStat_eq, decodeActivity_eq, temp_dec,
      fifoLen_dec, T.u24le]

end Thm
end Bma400
