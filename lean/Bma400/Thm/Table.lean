/-
  The register table of src/registers.rs, regenerated into `Generated.lean` by
  tools/gen_regtable.py on every check run, equals the datasheet transcription used by the
  model and the specification (Datasheet.lean):
  `table_cfg`      every `cfg_register!` has the datasheet address and reset literal, the
                   union of its flag masks is exactly the set of datasheet-defined bits, and
                   the registers are exactly the 57 configuration registers plus IF_CONF and
                   SELF_TEST;
  `table_masks`    for the first 18 configuration registers (0x19 .. 0x2F), the multiset of single
                   masks declared in the Rust equals the expected field masks (names are not
                   compared, so a renamed constant is not an alarm);
  `table_defaults` the model's default of every recorded register is `from_bits_truncate(reset literal)`;
  `table_read`     the read-only registers have the datasheet addresses;
  `table_cmd`      the command register address and the three command codes.
  A changed address, reset literal or mask in registers.rs breaks one of these
  kernel-checked equalities before any test runs.
-/
import Bma400.Generated
import Bma400.Datasheet
import Bma400.Regs
namespace Bma400
namespace Thm
open DS

def orMasks (l : List (String × Nat)) : Nat := l.foldl (fun acc p => acc ||| p.2) 0

/-- (address, reset literal, union of masks) of every generated configuration register -/
def genSummary : List (Nat × Nat × Nat) := Generated.cfgRegs.map (fun r => (r.2.1, r.2.2.1, orMasks r.2.2.2))

/-- the same from the datasheet transcription -/
def dsSummary : List (Nat × Nat × Nat) :=
  (cfgAddrs ++ [IF_CONF, SELF_TEST]).map (fun a => (a, (resetVal a).toNat, (definedMask a).toNat))

theorem table_cfg : genSummary = dsSummary := by decide +kernel

/-- the default of every recorded register in the model is `from_bits_truncate(reset literal)` of the Rust -/
theorem table_defaults : ∀ r ∈ Generated.cfgRegs, r.2.1 ∈ cfgAddrs →
    (R.defaultOf r.2.1).toNat = r.2.2.1 &&& orMasks r.2.2.2 := by decide +kernel

theorem table_read : Generated.readRegs.map (·.2) =
    [CHIP_ID, ERR_REG, STATUS, ACC_X_LSB, 0x05, 0x06, 0x07, 0x08, 0x09, SENSOR_TIME0, 0x0B, 0x0C, EVENT,
     INT_STAT0, INT_STAT1, INT_STAT2, TEMP_DATA, FIFO_LENGTH0, 0x13, FIFO_DATA, STEP_CNT0, 0x16, 0x17, STEP_STAT] := by
  decide +kernel

theorem table_cmd : Generated.commandAddr = CMD ∧
    Generated.commands.map (·.2) = [CMD_FIFO_FLUSH.toNat, CMD_STEP_CNT_CLEAR.toNat, CMD_SOFTRESET.toNat] := by
  decide +kernel

def insertSorted (x : Nat) : List Nat → List Nat
  | [] => [x]
  | y :: ys => if x ≤ y then x :: y :: ys else y :: insertSorted x ys
def isort : List Nat → List Nat
  | [] => []
  | x :: xs => insertSorted x (isort xs)

/-- single-bit and multi-bit masks declared per register, sorted, names dropped -/
def genMasks : List (Nat × List Nat) :=
  Generated.cfgRegs.map (fun r => (r.2.1, isort (r.2.2.2.map (·.2))))

/-- the masks registers.rs is expected to declare: per register the single bits of every
    datasheet-defined bit plus the multi-bit field masks the encoders use -/
def expectedMasks : List (Nat × List Nat) :=
  [ (0x19, [0x01, 0x02, 0x03, 0x20, 0x40, 0x60, 0x80]),
    (0x1A, [0x01, 0x02, 0x04, 0x08, 0x0F, 0x10, 0x20, 0x30, 0x40, 0x80, 0xC0]),
    (0x1B, [0x04, 0x08, 0x0C]),
    (0x1F, [0x02, 0x04, 0x08, 0x20, 0x40, 0x80]),
    (0x20, [0x01, 0x04, 0x08, 0x10, 0x80]),
    (0x21, [0x01, 0x02, 0x04, 0x08, 0x10, 0x20, 0x40, 0x80]),
    (0x22, [0x01, 0x02, 0x04, 0x08, 0x10, 0x20, 0x40, 0x80]),
    (0x23, [0x01, 0x04, 0x08, 0x10, 0x40, 0x80]),
    (0x24, [0x02, 0x04, 0x20, 0x40]),
    (0x26, [0x01, 0x02, 0x04, 0x08, 0x10, 0x20, 0x40, 0x80]),
    (0x27, [0x01, 0x02, 0x04, 0x08, 0x10, 0x20, 0x40, 0x80]),
    (0x28, [0x01, 0x02, 0x04, 0x07]),
    (0x29, [0x01]),
    (0x2A, [0x01, 0x02, 0x04, 0x08, 0x10, 0x20, 0x40, 0x80]),
    (0x2B, [0x01, 0x02, 0x04, 0x08, 0x0C, 0x10, 0x20, 0x40, 0x80, 0xF0]),
    (0x2C, [0x01, 0x02, 0x04, 0x08, 0x10, 0x20, 0x40, 0x80]),
    (0x2D, [0x02, 0x04, 0x10, 0x20, 0x40, 0x80, 0xF0]),
    (0x2F, [0x01, 0x02, 0x03, 0x04, 0x08, 0x10, 0x1C, 0x20, 0x40, 0x80]) ]

theorem table_masks : genMasks.take 18 = expectedMasks := by decide +kernel

end Thm
end Bma400
