/-
  C07 - interrupt parameters are only rewritten while that interrupt is disabled.

  `C07_script`: for EVERY builder, EVERY request and EVERY coherent state, walking the
  builder's whole write script from the device state `chip`, at each write to a parameter
  register of the generic-1, generic-2, activity-change, tap, orientation-change or
  wake-up interrupt, or to the FIFO watermark level, that interrupt is disabled in the
  device state at that instant (`P.C07`, the predicate `judge` evaluates on the crate's
  journal against the simulated chip's own enable bits).
  `C07_prefix`: the walk is prefix-closed, so the same holds when the call is cut short by
  a bus failure at any position.
-/
import Bma400.Lemmas.Scripts
namespace Bma400
namespace Thm
open P

/-- writes that leave alone the enable register of every interrupt whose parameters they touch,
    started with those interrupts off -/
theorem C07_frozen {ws : List W} {c : Regs}
    (h : ∀ w ∈ ws, ∀ X ∈ DS.Intr.all, w.addr ∈ X.params → X.enabled c = false ∧ ∀ w' ∈ ws, w'.addr ≠ X.reg) : C07 c ws := by
  induction ws generalizing c with
  | nil => trivial
  | cons w ws ih =>
    refine ⟨fun X hX hp => (h w (by simp) X hX hp).1, ih fun w' hw' X hX hp => ?_⟩
    obtain ⟨h1, h2⟩ := h w' (by simp [hw']) X hX hp
    refine ⟨?_, fun w'' hw'' => h2 w'' (by simp [hw''])⟩
    rw [enabled_eq, Regs.set_other _ _ _ _ (h2 w (by simp)).symm, ← enabled_eq, h1]

theorem C07_noparam {c : Regs} {ws : List W} (h : ∀ w ∈ ws, ∀ x ∈ DS.Intr.all, w.addr ∉ x.params) : C07 c ws :=
  C07_frozen fun w hw X hX hp => absurd hp (h w hw X hX)

/-- C07 for a layout: only `B1` holds parameters, and an interrupt whose parameters change is off
    under the temporaries -/
theorem Layout.C07 {L : Layout} {block : List Nat} {pin : Bool} {sh rq : Regs} (wf : L.WF block pin sh rq)
    (c : Regs) (hco : ∀ e ∈ L.Ts, c e = sh e) : P.C07 c (L.script sh rq) := by
  have np : ∀ (cur tgt : Regs) (w : W), w ∈ dws cur tgt L.Ts → ∀ X ∈ DS.Intr.all, w.addr ∉ X.params :=
    fun cur tgt w hw X hX hp => params_not_enable X hX _ hp (wf.enable _ (mem_dws hw).1)
  refine C07_append (C07_append (C07_noparam ?_) (C07_frozen ?_)) (C07_noparam ?_)
  · intro w hw
    rcases List.mem_append.1 hw with hw | hw
    · exact wf.ends _ (by simp [(mem_dws hw).1])
    · exact np _ _ w hw
  · intro w hw X hX hp
    obtain ⟨hB, _, hne⟩ := mem_dws hw
    obtain ⟨hT, hoff⟩ := wf.guard X hX _ hB hp hne
    have nB : X.reg ∉ L.body := wf.sep.2.2 _ hT
    simp only [Layout.body, List.mem_append, not_or] at nB
    refine ⟨?_, fun w' hw' e => nB.1.2 (e ▸ (mem_dws hw').1)⟩
    rw [enabled_eq, applyWrites_last, valuesAt_append, valuesAt_dws_notin nB.1.1, valuesAt_dws _ _ _ wf.sep.1, hco _ hT]
    by_cases h : sh X.reg = L.tmp X.reg <;> simp [h, hT, hoff]
  · intro w hw
    rcases List.mem_append.1 hw with hw | hw
    · exact np _ _ w hw
    · exact wf.ends _ (by simp [(mem_dws hw).1])

theorem C07_script (q : Request) (sh chip : Regs) (hco : Coherent sh chip) (ws : List W)
    (h : q.script sh = .ok ws) : C07 chip ws := by
  have wf := layout_wf q sh (q.target sh)
  rw [script_layout h]
  exact Layout.C07 wf chip fun e he => (hco e (enable_sub_cfg e (wf.enable e he))).symm

/-- prefix-closed: whatever prefix of the script was executed before a bus failure -/
theorem C07_prefix (c : Regs) (ws : List W) (n : Nat) (h : C07 c ws) : C07 c (ws.take n) := by
  induction ws generalizing c n with
  | nil => simpa using h
  | cons w ws ih =>
    cases n with
    | zero => trivial
    | succ n => exact ⟨h.1, ih _ n h.2⟩

/-- non-vacuity: tap parameters with single-tap enabled at 200 Hz: disable, write, restore -/
example : C07 (shadowDefault.set 0x20 0x04#8) [⟨0x20, 0x00#8⟩, ⟨0x57, 0x03#8⟩, ⟨0x20, 0x04#8⟩] ∧
    ¬ C07 (shadowDefault.set 0x20 0x04#8) [⟨0x57, 0x03#8⟩] := by decide

end Thm
end Bma400
